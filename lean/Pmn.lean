import Pmn.Model.Basic
import Pmn.Model.Circuit
import Pmn.Model.Cmd
import Pmn.Model.Const
import Pmn.Model.Far
import Pmn.Model.Fill
import Pmn.Model.Fmt
import Pmn.Model.Geom
import Pmn.Model.Grid
import Pmn.Model.Guard
import Pmn.Model.Near
import Pmn.Model.Num
import Pmn.Model.Report
import Pmn.Model.Session
import Pmn.Model.Topo
import Pmn.Proofs.CxAttr
import Pmn.Proofs.CxC
import Pmn.Proofs.FillLemmas
import Pmn.Proofs.FmtLemmas
import Pmn.Proofs.InsertSort
import Pmn.Proofs.Inst
import Pmn.Proofs.Lin
import Pmn.Proofs.Line
import Pmn.Proofs.ListLemmas
import Pmn.Proofs.TopoLemmas
import Pmn.Proofs.Vec
import Pmn.Props.C01
import Pmn.Props.C02
import Pmn.Props.C03
import Pmn.Props.C04
import Pmn.Props.C05
import Pmn.Props.C05b
import Pmn.Props.C06
import Pmn.Props.C07
import Pmn.Props.C08
import Pmn.Props.C09
import Pmn.Props.C10
import Pmn.Props.C11
import Pmn.Props.C12
import Pmn.Props.C12b
import Pmn.Props.C13
import Pmn.Props.C13b
import Pmn.Props.C13c
import Pmn.Props.C14
import Pmn.Props.C15
import Pmn.Props.C15b
import Pmn.Props.C15c
import Pmn.Props.C15d
import Pmn.Props.C16
import Pmn.Props.C17
import Pmn.Props.C18
import Pmn.Props.C19
import Pmn.Props.C19b
import Pmn.Props.C19c
import Pmn.Props.C20
