/-
C14 — results depend only on the inputs: no history.

For the abstract session machine with *arbitrary* physics functions: if the frequency setter clears
the skin-effect cache (`clearZint = true`, the repaired code), every observation of every valid
history equals the observation of a fresh single-frequency run.  With `clearZint = false` (the
original code) the statement is false; the witness is a three-operation history.
-/
import Pmn.Model.Session

namespace Pmn.Props.C14
open Pmn.Session

variable {F V A : Type}

/-- every cache is empty or holds what a fresh run at the current frequency would compute -/
def Coherent (ph : Phys F V A) (s : St F V) : Prop :=
  (∀ w, s.zint w = none ∨ s.zint w = some (ph.zintF w s.f)) ∧
  (∀ w, s.zins w = none ∨ s.zins w = some (ph.zinsF w)) ∧
  (s.cur = none ∨ s.cur = some (s.f, freshCur ph s.f))

theorem C14_init (ph : Phys F V A) (f : F) : Coherent ph (init f : St F V) :=
  ⟨fun _ => Or.inl rfl, fun _ => Or.inl rfl, Or.inl rfl⟩

theorem useCache_coherent (c : Option V) (v : V) (h : c = none ∨ c = some v) : useCache c v = v := by
  rcases h with rfl | rfl <;> rfl

theorem step_coherent (ph : Phys F V A) (s : St F V) (op : Op F A) (h : Coherent ph s) :
    Coherent ph (step ph true s op).1 ∧
      ((step ph true s op).2 = none ∨ (step ph true s op).2 = freshObs ph s.f op) := by
  obtain ⟨h1, h2, h3⟩ := h
  cases op with
  | setF f => exact ⟨⟨fun _ => .inl rfl, h2, .inl rfl⟩, .inl rfl⟩
  | compute =>
    -- a cache that is consulted answers what would be computed afresh
    have e1 : ∀ w, useCache (s.zint w) (ph.zintF w s.f) = ph.zintF w s.f := fun w => useCache_coherent _ _ (h1 w)
    have e2 : ∀ w, useCache (s.zins w) (ph.zinsF w) = ph.zinsF w := fun w => useCache_coherent _ _ (h2 w)
    simp only [step, e1, e2]
    exact ⟨⟨fun _ => .inr rfl, fun _ => .inr rfl, .inr rfl⟩, .inr rfl⟩
  | far a => rcases h3 with h3 | h3 <;> simp [step, h3, freshObs, Coherent, h1, h2]
  | near a => rcases h3 with h3 | h3 <;> simp [step, h3, freshObs, Coherent, h1, h2]

/-- **invariant**: coherence is preserved by every operation (with the cache reset in the setter) -/
theorem C14_inv (ph : Phys F V A) (s : St F V) (op : Op F A) (h : Coherent ph s) :
    Coherent ph (step ph true s op).1 := (step_coherent ph s op h).1

/-- in a coherent state every operation answers what a fresh run at the current frequency answers
(or nothing, when there is no solution for the current frequency — the invalid-history case) -/
theorem C14_obs (ph : Phys F V A) (s : St F V) (op : Op F A) (h : Coherent ph s) :
    (step ph true s op).2 = none ∨ (step ph true s op).2 = freshObs ph s.f op := (step_coherent ph s op h).2

def freqs (ph : Phys F V A) (c : Bool) : St F V → List (Op F A) → List F
  | _, [] => []
  | s, op :: r => s.f :: freqs ph c (step ph c s op).1 r

/-- entry by entry: absent, or the observation of a fresh run at that frequency -/
def AllFresh (ph : Phys F V A) : List (Option V) → List F → List (Op F A) → Prop
  | o :: os, f :: fs, op :: ops => (o = none ∨ o = freshObs ph f op) ∧ AllFresh ph os fs ops
  | [], [], [] => True
  | _, _, _ => False

/-- **no history**: for every history from a coherent (e.g. fresh) object, every observation equals
that of a fresh single-frequency run at the frequency then in force (or is absent, for a field
request that is not preceded by a compute after the last frequency change) -/
theorem C14_fresh (ph : Phys F V A) (s : St F V) (ops : List (Op F A)) (h : Coherent ph s) :
    AllFresh ph (run ph true s ops).2 (freqs ph true s ops) ops := by
  induction ops generalizing s with
  | nil => simp [run, freqs, AllFresh]
  | cons op r ih =>
    simp only [run, freqs, AllFresh]
    exact ⟨C14_obs ph s op h, ih _ (C14_inv ph s op h)⟩

/-- asking twice changes nothing: the second answer is the first, in any state, for either setter -/
theorem step_twice (ph : Phys F V A) (c : Bool) (s : St F V) (op : Op F A) :
    (step ph c (step ph c s op).1 op).2 = (step ph c s op).2 := by
  -- a field request leaves the state alone; the second compute finds every cache filled by the first, and
  -- `useCache (some v) _` is `v`
  obtain ⟨f, zi, zn, _ | _⟩ := s <;> cases op <;> rfl

/-- repeated requests give equal answers -/
theorem C14_repeat (ph : Phys F V A) (s : St F V) (op : Op F A) (hop : ∀ f, op ≠ .setF f) :
    (step ph true (step ph true s op).1 op).2 = (step ph true s op).2 ∨ op = .compute :=
  .inl (step_twice ph true s op)

/-- computing twice gives the same result (in a coherent state) -/
theorem C14_compute_twice (ph : Phys F V A) (s : St F V) (h : Coherent ph s) :
    (step ph true (step ph true s .compute).1 .compute).2 = (step ph true s .compute).2 :=
  step_twice ph true s .compute

/-- far-field and near-field requests do not disturb each other -/
theorem C14_far_near_commute (ph : Phys F V A) (s : St F V) (a b : A) :
    (step ph true (step ph true s (.far a)).1 (.near b)).2 = (step ph true s (.near b)).2 := by
  cases hc : s.cur <;> simp [step, hc]

/-- a concrete physics in which the skin-effect impedance is the frequency itself and the solution
reports the impedance used for object 0 -/
def witnessPhys : Phys Nat Nat Nat :=
  ⟨fun _ f => f, fun _ => 0, fun _ zi _ => zi 0, fun r _ _ => r, fun r _ _ => r⟩

/-- **the defect of the original code** (`Geobj.zint` survives a frequency change): the history
`compute @7; f := 14; compute` answers with the 7 MHz impedance, a fresh run at 14 MHz does not -/
theorem C14_defect_witness :
    (run witnessPhys false (init 7) [.compute, .setF 14, .compute]).2 = [some 7, none, some 7] ∧
    freshObs witnessPhys 14 (.compute : Op Nat Nat) = some 14 := by
  decide

-- the same history when the setter clears the cache
example : (run witnessPhys true (init 7) [.compute, .setF 14, .compute]).2 = [some 7, none, some 14] := by
  decide

end Pmn.Props.C14
