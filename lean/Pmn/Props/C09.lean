/-
C09 — Kirchhoff's current law and end conditions in the current report.

`endLine objs k e` is what the current table prints for end `e` of object `k` (nothing for a
grounded end, `E` for a free end, `J` with a signed list of pulse numbers for a junction end);
`codeTerms` is the combination the implementation evaluates (at a first end only the last term).
Currents are arbitrary (`I : Nat → R`, any commutative ring — ℂ in the application): "Kirchhoff" here is bookkeeping
of the printed lines, not a property of solved currents.  The registering end's line is the signed sum of the
attaching ends' junction pulses, each of them that end's own line with sign `+1`; the signs cancel (`out_sgn`).
-/
import Pmn.Proofs.TopoLemmas
import Pmn.Proofs.ListLemmas
import Pmn.Proofs.InsertSort
import Mathlib.Algebra.BigOperators.Group.List.Basic
import Mathlib.Algebra.Ring.Basic
import Mathlib.Tactic.Ring
import Mathlib.Algebra.BigOperators.Group.List.Lemmas
import Mathlib.Algebra.BigOperators.Ring.List

namespace Pmn.Props.C09
open Pmn.Topo Pmn.TopoLemmas Pmn.ListLemmas

variable {R : Type} [CommRing R]

def cur (I : Nat → R) : Option Nat → R
  | some i => I i
  | none => 0

def termsVal (I : Nat → R) (t : List (Option Nat × Int)) : R :=
  (t.map fun x => (x.2 : R) * cur I x.1).sum

/-- orientation of a wire end with respect to its junction: the reference direction of every
pulse is from the first to the second end, so a positive current leaves the junction at a first
end and enters it at a second end -/
def out (e : Nat) : R := if e = 0 then 1 else -1

theorem out_sgn (eA eB : Nat) (hA : eA < 2) (hB : eB < 2) :
    (out eA : R) * ((sgnOf eA eB : Int) : R) + out eB = 0 := by
  have hA : eA = 0 ∨ eA = 1 := by omega
  have hB : eB = 0 ∨ eB = 1 := by omega
  rcases hA with rfl | rfl <;> rcases hB with rfl | rfl <;> simp [out, sgnOf]

theorem sortConn_eq (l : List Conn) : sortConn l = InsertSort.insAll (·.geobj) l [] := by
  have h : ∀ c acc, insertConn c acc = InsertSort.ins (·.geobj) c acc := fun c acc => by
    induction acc with
    | nil => rfl
    | cons d r ih => simp only [insertConn, InsertSort.ins, ih]
  simp only [sortConn, InsertSort.insAll, h]

theorem sortConn_perm (l : List Conn) : (sortConn l).Perm l := by
  simpa [sortConn_eq] using InsertSort.insAll_perm (·.geobj) l []

/-- the value of a junction line does not depend on the order of its terms -/
theorem termsVal_pulseIter (I : Nat → R) (objs : List Obj) (k e : Nat) :
    termsVal I (pulseIter objs k e)
      = ((connList objs k e).map fun c => (c.sign : R) * cur I (endSegOf objs c.ow c.endIdx)).sum := by
  unfold termsVal pulseIter
  rw [List.map_map]
  exact ((sortConn_perm _).map _).sum_eq

/-- the structure of a junction as the implementation records it: every entry of the list of the
registering end `(A, eA)` stands for one attaching end `(c.ow, c.endIdx)`, carries the sign `−1`
exactly for equal end numbers, and that attaching end's own list consists of its junction pulse
with sign `+1` -/
def NodeOK (objs : List Obj) (A eA : Nat) : Prop :=
  eA < 2 ∧ ∀ c ∈ connList objs A eA,
    c.endIdx < 2 ∧ c.sign = sgnOf eA c.endIdx ∧
    pulseIter objs c.ow c.endIdx = [(endSegOf objs c.ow c.endIdx, 1)]

/-- **Kirchhoff** (full sums): at a junction whose structure is `NodeOK`, the junction-line values
of all ends, each counted with its orientation, add up to zero — for every current vector. -/
theorem C09_kcl_node (I : Nat → R) (objs : List Obj) (A eA : Nat) (h : NodeOK objs A eA) :
    out eA * termsVal I (pulseIter objs A eA)
      + ((connList objs A eA).map fun c =>
          out c.endIdx * termsVal I (pulseIter objs c.ow c.endIdx)).sum = 0 := by
  obtain ⟨hA, hc⟩ := h
  rw [termsVal_pulseIter, ← List.sum_map_mul_left, ← List.sum_map_add]
  refine List.sum_eq_zero (List.forall_mem_map.mpr fun c hcm => ?_)
  obtain ⟨hB, hs, hp⟩ := hc c hcm
  simp only [hp, termsVal, List.map_cons, List.map_nil, List.sum_cons, List.sum_nil, hs]
  calc _ = ((out eA : R) * ((sgnOf eA c.endIdx : Int) : R) + out c.endIdx) * cur I (endSegOf objs c.ow c.endIdx) := by
        push_cast; ring
    _ = 0 := by rw [out_sgn eA c.endIdx hA hB, zero_mul]

theorem codeTerms_eq (e : Nat) (t : List (Option Nat × Int)) (h : e = 1 ∨ t.length ≤ 1) : codeTerms e t = t := by
  unfold codeTerms
  split
  · match t, h with
    | [], _ => rfl
    | [x], _ => rfl
    | x :: y :: r, h => simp at h; omega
  · rfl

theorem pulseIter_length (objs : List Obj) (k e : Nat) : (pulseIter objs k e).length = (connList objs k e).length := by
  rw [pulseIter, List.length_map, (sortConn_perm _).length_eq]

/-- what the implementation prints obeys Kirchhoff at every junction whose registering end is a
second end, or which has at most one attaching end (there `codeTerms` keeps all terms) -/
theorem C09_kcl_partial (I : Nat → R) (objs : List Obj) (A eA : Nat) (h : NodeOK objs A eA)
    (hcase : eA = 1 ∨ (connList objs A eA).length ≤ 1) :
    out eA * termsVal I (codeTerms eA (pulseIter objs A eA))
      + ((connList objs A eA).map fun c =>
          out c.endIdx * termsVal I (codeTerms c.endIdx (pulseIter objs c.ow c.endIdx))).sum = 0 := by
  have hA : codeTerms eA (pulseIter objs A eA) = pulseIter objs A eA :=
    codeTerms_eq _ _ (hcase.imp_right fun hl => pulseIter_length objs A eA ▸ hl)
  have hc : ∀ c ∈ connList objs A eA,
      codeTerms c.endIdx (pulseIter objs c.ow c.endIdx) = pulseIter objs c.ow c.endIdx :=
    fun c hc => codeTerms_eq _ _ (Or.inr (by rw [(h.2 c hc).2.2]; exact Nat.le_refl 1))
  rw [hA, List.map_congr_left fun c hm => by rw [hc c hm]]
  exact C09_kcl_node I objs A eA h

/-- a free end (not grounded, nothing attached) is reported as `E`, i.e. with zero current -/
theorem C09_free_end (objs : List Obj) (k e : Nat) (ob : Obj) (hk : objs[k]? = some ob)
    (hg : ob.inp.ground e = false) (hc : connList objs k e = []) : endLine objs k e = .E := by
  unfold endLine
  rw [hk]
  simp [hg, pulseIter, hc, sortConn]

/-- every attaching end points at an end that registered (first at its point) -/
def HitsOK (objs : List Obj) : Prop :=
  ∀ ob ∈ objs, ∀ eb < 2, ∀ n2 other, ob.inp.hit eb = some (n2, other) → isRegistrant objs other n2 = true

theorem isRegistrant_append (objs : List Obj) (x : Obj) (k e : Nat)
    (h : isRegistrant objs k e = true) : isRegistrant (objs ++ [x]) k e = true := by
  rw [isRegistrant_iff, List.getElem?_append_left (isRegistrant_lt _ _ _ h), ← isRegistrant_iff]
  exact h

theorem hitsOK_build (os : List ObjIn) (st : State) (h : build os = .ok st) : HitsOK st.objs := by
  refine build_induction (P := fun _ st => HitsOK st.objs) (fun _ h => nomatch h) (fun _ st o st' ih hs => ?_) h
  obtain ⟨h0, h1, _, _, _, ho⟩ := step_ok st st' o hs
  rw [ho, HitsOK, List.forall_mem_append, List.forall_mem_singleton]
  refine ⟨fun ob hob eb heb n2 other hh => isRegistrant_append _ _ _ _ (ih ob hob eb heb n2 other hh),
    fun eb heb n2 other hh => ?_⟩
  -- the hits of the new object were checked by `step`
  have hok : hitOk st.objs st.objs.length o eb = true := by
    obtain rfl | rfl : eb = 0 ∨ eb = 1 := by omega
    exacts [h0, h1]
  obtain ⟨_, hr | ⟨_, rfl, rfl, hg0, hh0⟩⟩ := hitOk_some _ _ _ _ _ _ hok hh
  · exact isRegistrant_append _ _ _ _ hr
  · simp [isRegistrant, ObjIn.ground, ObjIn.hit, hg0, hh0]

theorem mem_connFrom (k e b : Nat) (ob : ObjIn) (c : Conn) :
    c ∈ connFrom k e b ob ↔ ∃ eb, eb < 2 ∧ ∃ n2 other, ob.hit eb = some (n2, other) ∧
      ((other = k ∧ n2 = e ∧ c = ⟨b, b, eb, sgnOf n2 eb⟩) ∨ (b = k ∧ eb = e ∧ c = ⟨other, b, eb, 1⟩)) := by
  have h2 : ∀ eb, eb = 0 ∨ eb = 1 ↔ eb < 2 := by omega
  simp only [connFrom, List.mem_flatMap, List.mem_cons, List.mem_nil_iff, or_false, h2]
  refine exists_congr fun eb => and_congr_right fun _ => ?_
  cases ob.hit eb with
  | none => simp
  | some v => obtain ⟨n2, other⟩ := v; simp [and_assoc]

theorem mem_connList (objs : List Obj) (k e : Nat) (c : Conn) :
    c ∈ connList objs k e ↔ ∃ b ob, objs[b]? = some ob ∧ c ∈ connFrom k e b ob.inp := by
  simp only [connList, List.mem_flatMap, List.mem_range]
  refine exists_congr fun b => ?_
  cases hb : objs[b]? with
  | none => simp
  | some ob => simp [(List.getElem?_eq_some_iff.mp hb).1]

/-- an attaching end's own list is exactly its junction entry -/
theorem connList_hitter (objs : List Obj) (hG : HitsOK objs) (b eb n2 other : Nat) (ob : Obj)
    (hb : objs[b]? = some ob) (heb : eb < 2) (hh : ob.inp.hit eb = some (n2, other)) :
    connList objs b eb = [⟨other, b, eb, 1⟩] := by
  have hblt := (List.getElem?_eq_some_iff.mp hb).1
  -- nobody attaches to (b, eb), because it is not a registering end
  have hnot : ∀ (b' : Nat) (ob' : Obj) (eb' n2' other' : Nat), objs[b']? = some ob' → eb' ∈ [0, 1] →
      ob'.inp.hit eb' = some (n2', other') → ¬ (other' = b ∧ n2' = eb) := by
    rintro b' ob' eb' n2' other' hb' heb' hh' ⟨rfl, rfl⟩
    obtain ⟨ob'', hb'', _, _, hnone⟩ := (isRegistrant_iff objs _ _).mp
      (hG ob' (List.mem_of_getElem? hb') eb' (by simp at heb'; omega) _ _ hh')
    rw [hb] at hb''; cases hb''
    rw [hh] at hnone; cases hnone
  -- so among all ends of all objects only (b, eb) itself contributes, and only its own entry
  unfold connList
  rw [flatMap_eq_of_unique List.nodup_range (List.mem_range.mpr hblt), hb]
  · show connFrom b eb b ob.inp = _
    unfold connFrom
    rw [flatMap_eq_of_unique (by decide) (by simp; omega : eb ∈ [0, 1]), hh]
    · simp [hnot b ob eb n2 other hb (by simp; omega) hh]
    · intro eb' heb' hne
      cases hh' : ob.inp.hit eb' with
      | none => rfl
      | some v => simp [hne, hnot b ob eb' v.1 v.2 hb heb' hh']
  · intro b' _ hne
    cases hb' : objs[b']? with
    | none => rfl
    | some ob' =>
      refine List.flatMap_eq_nil_iff.mpr fun eb' heb' => ?_
      cases hh' : ob'.inp.hit eb' with
      | none => rfl
      | some v => simp [hne, hnot b' ob' eb' v.1 v.2 hb' heb' hh']

/-- **structure theorem**: in every antenna the builder accepts, every registering end is a
`NodeOK` junction -/
theorem C09_structure (os : List ObjIn) (st : State) (h : build os = .ok st) (A eA : Nat)
    (hreg : isRegistrant st.objs A eA = true) : NodeOK st.objs A eA := by
  have hG := hitsOK_build os st h
  obtain ⟨obA, hA, heA, _, hnone⟩ := (isRegistrant_iff st.objs A eA).mp hreg
  refine ⟨heA, fun c hc => ?_⟩
  obtain ⟨b, ob, hb, hc⟩ := (mem_connList ..).mp hc
  obtain ⟨eb, heb, n2, other, hh, ⟨_, rfl, rfl⟩ | ⟨rfl, rfl, _⟩⟩ := (mem_connFrom ..).mp hc
  · refine ⟨heb, rfl, ?_⟩
    simp [pulseIter, connList_hitter st.objs hG b eb n2 other ob hb heb hh, sortConn, insertConn]
  · -- (A, eA) would itself be an attaching end
    rw [hA] at hb; cases hb
    rw [hnone] at hh; cases hh

/-- **Kirchhoff for every accepted antenna** (full sums — what the report would satisfy with
`c += …` at both ends) -/
theorem C09_kcl (os : List ObjIn) (st : State) (h : build os = .ok st) (A eA : Nat)
    (hreg : isRegistrant st.objs A eA = true) (I : Nat → R) :
    out eA * termsVal I (pulseIter st.objs A eA)
      + ((connList st.objs A eA).map fun c =>
          out c.endIdx * termsVal I (pulseIter st.objs c.ow c.endIdx)).sum = 0 :=
  C09_kcl_node I st.objs A eA (C09_structure os st h A eA hreg)

/-- **Kirchhoff for the implementation**: holds at every junction whose registering end is a second
end or that has at most one attaching end -/
theorem C09_kcl_code_partial (os : List ObjIn) (st : State) (h : build os = .ok st) (A eA : Nat)
    (hreg : isRegistrant st.objs A eA = true) (I : Nat → R)
    (hcase : eA = 1 ∨ (connList st.objs A eA).length ≤ 1) :
    out eA * termsVal I (codeTerms eA (pulseIter st.objs A eA))
      + ((connList st.objs A eA).map fun c =>
          out c.endIdx * termsVal I (codeTerms c.endIdx (pulseIter st.objs c.ow c.endIdx))).sum = 0 :=
  C09_kcl_partial I st.objs A eA (C09_structure os st h A eA hreg) hcase

/-- three two-segment wires leaving one point: wires 2 and 3 attach to the first end of wire 1 -/
def star3 : List ObjIn :=
  [⟨2, false, false, none, none⟩, ⟨2, false, false, some (0, 0), none⟩, ⟨2, false, false, some (0, 0), none⟩]

/-- the node sum as the implementation evaluates it, over ℤ -/
def codeNodeSum (objs : List Obj) (A eA : Nat) (I : Nat → Int) : Int :=
  out eA * termsVal I (codeTerms eA (pulseIter objs A eA))
    + ((connList objs A eA).map fun c =>
        out c.endIdx * termsVal I (codeTerms c.endIdx (pulseIter objs c.ow c.endIdx))).sum

/-- **the defect** (`c =` instead of `c +=` at the first end, mininec.py `currents_as_mininec`):
for the three-wire star and unit currents the printed junction currents do not add up to zero —
Kirchhoff fails for the implementation, at a first-end junction with two attached wires. -/
theorem C09_defect_witness :
    (build star3).toOption.map (fun st =>
      (isRegistrant st.objs 0 0, codeNodeSum st.objs 0 0 (fun _ => 1))) = some (true, 1) := by
  decide +kernel

/-- non-vacuity of `C09_kcl`: the same star is an accepted antenna with a registering end -/
example : (build star3).toOption.map (fun st =>
      (isRegistrant st.objs 0 0, (connList st.objs 0 0).length)) = some (true, 2) := by decide +kernel

end Pmn.Props.C09
