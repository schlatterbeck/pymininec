/-
C02 — impedance-matrix terms equal the MININEC-3 potential-integral formulation.

Translation validation: `entrySpec` evaluates the published formulation (vector potential of the
two half segments of the source pulse projected on the observer pulse, plus the differences of the
scalar potentials of its two charged segments at the observer's half-segment ends, minus the same
for the mirror image over ground) with *adaptive* quadrature of the reduced kernel, from nothing
but geometry, radii and frequency; the harness compares `Mininec.Z` with it at 1e-4 of the
magnitude of the potential terms for all pulse pairs at least 2.5 segments apart.
What is proved here is the shared structure; no theorem bounds the quadrature error.
-/
import Pmn.Props.C05

namespace Pmn.Props.C02
open Pmn.Fill Pmn.Props.C05

/-- implemented fill and specification are the same assembly applied to two potential functionals:
for every pulse pair outside a single straight equally segmented object (`f8Of = 0`, in particular
for pulses on different objects, junction pulses, tapered wires, arcs, helices) the implemented entry
is `entry` with the Gauss-rule functional, the specification is `entry` with the adaptive one -/
theorem C02_same_assembly (c : Ctx ℝ) (tol : ℝ) (hg : Bool) (pi pj : PulseD ℝ) (x : Bool)
    (h8 : f8Of pi pj = 0) :
    entryAlgo c hg pi pj x = entry (psi c) c hg pi pj x ∧
    entrySpec c tol hg pi pj x = entry (psiSpec c tol) c hg pi pj x := by
  refine ⟨?_, rfl⟩
  unfold entryAlgo entry entryK
  rw [h8]

/-- over a ground plane the term contains the direct expression plus `k = −1` times the same expression for the mirror
image -/
theorem C02_image_term (Ψ : PsiFn ℝ) (c : Ctx ℝ) (pi pj : PulseD ℝ) (x : Bool)
    (h0 : pj.s0.gnd = false) (h1 : pj.s1.gnd = false) :
    entry Ψ c true pi pj x = entryK Ψ c 1 false pi pj x + entryK Ψ c (-1) true pi pj x := by
  unfold entry
  simp [h0, h1]

/-- no image term for source pulses that sit on the ground plane themselves, and in free space -/
theorem C02_ground_source_excluded (Ψ : PsiFn ℝ) (c : Ctx ℝ) (hg : Bool) (pi pj : PulseD ℝ) (x : Bool)
    (h : hg = false ∨ pj.s0.gnd = true ∨ pj.s1.gnd = true) :
    entry Ψ c hg pi pj x = entryK Ψ c 1 false pi pj x := by
  unfold entry
  rcases h with h | h | h <;> simp [h]

/-- the image pass enters with the factor `k = −1` -/
theorem C02_image_sign (Ψ : PsiFn ℝ) (c : Ctx ℝ) (pi pj : PulseD ℝ) (x : Bool) :
    ∃ z : Cx ℝ, entryK Ψ c (-1) true pi pj x = Cx.scale (-1) z := by
  unfold entryK
  exact ⟨_, rfl⟩

/-- the specification uses nothing but relative positions: it is translation invariant (free space:
any shift; over ground: horizontal shifts) — `C05_translate` for the specification functional -/
theorem C02_relative_only (c : Ctx ℝ) (tol : ℝ) (hg : Bool) (s : V3 ℝ) (pi pj : PulseD ℝ) (x : Bool)
    (h : hg = false ∨ s.z = 0) :
    entrySpec c tol hg (shiftPulse s pi) (shiftPulse s pj) x = entrySpec c tol hg pi pj x :=
  C05_translate (psiSpec c tol) (psiSpec_posFree c tol) c hg s pi pj x h

end Pmn.Props.C02
