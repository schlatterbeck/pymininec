/-
C19 (continued) — "the report is structurally complete: one geometry row and one current row per pulse in its
object's block, one source block per source and one load line per loaded pulse".

For the row-structure model `Pmn.Model.Report` of the report writers, for any number of objects, sources and loads.
The pulse lists of the objects are those of the topology model: their concatenation in object order is `0 … N−1`
(`Pmn.Props.C12.C12_numbering`); that is the hypothesis `hnum`.
-/
import Pmn.Model.Report

namespace Pmn.Props.C19c
open Pmn.Report

theorem filterMap_rows (f : Row → Option Nat) (g : Nat → Row) (hf : ∀ n, f (g n) = some n) (l : List Nat) :
    (l.map (fun p => g (p + 1))).filterMap f = l.map (· + 1) := by
  simp [Function.comp_def, hf]

theorem geoBlock_numbers (o : RObj) : (geoBlock o).filterMap Row.geoNo? = o.pulses.map (· + 1) := by
  have h := filterMap_rows Row.geoNo? Row.geoRow (fun _ => rfl) o.pulses
  cases hn : o.noEnds <;> simp [geoBlock, hn, List.filterMap_cons, Row.geoNo?, h]

/-- the numbered rows of the geometry table, block after block, are the pulses of the objects in object order … -/
theorem C19_geometry_rows (objs : List RObj) :
    (geometry objs).filterMap Row.geoNo? = (objs.flatMap (·.pulses)).map (· + 1) := by
  simp only [geometry, List.filterMap_flatMap, List.map_flatMap, geoBlock_numbers]

/-- … hence **one geometry row per pulse, numbered 1 … N, each in the block of the object that owns it** -/
theorem C19_geometry_complete (objs : List RObj) (N : Nat) (hnum : objs.flatMap (·.pulses) = List.range N) :
    (geometry objs).filterMap Row.geoNo? = (List.range N).map (· + 1) ∧
    ∀ o ∈ objs, (geoBlock o).filterMap Row.geoNo? = o.pulses.map (· + 1) := by
  refine ⟨?_, fun o _ => geoBlock_numbers o⟩
  rw [C19_geometry_rows, hnum]

def srcNo? : Row → Option Nat
  | .srcLine n => some n
  | _ => none

def dataNo? : Row → Option Nat
  | .srcData n => some n
  | _ => none

/-- **one listing line and one SOURCE DATA block per source**, in the order of registration, naming `idx + 1`;
the announced number of sources is the number of lines -/
theorem C19_source_blocks (srcs : List Nat) :
    (sources srcs).filterMap srcNo? = srcs.map (· + 1) ∧
    (sourceData srcs).filterMap dataNo? = srcs.map (· + 1) ∧
    (sources srcs).head? = some (Row.srcCount ((sources srcs).filterMap srcNo?).length) := by
  have h1 : (sources srcs).filterMap srcNo? = srcs.map (· + 1) := filterMap_rows srcNo? Row.srcLine (fun _ => rfl) srcs
  exact ⟨h1, filterMap_rows dataNo? Row.srcData (fun _ => rfl) srcs, by rw [h1, List.length_map]; rfl⟩

theorem loadLines_numbers (l : RLoad) : (loadLines l).filterMap Row.loadNo? = l.pulses.map (· + 1) := by
  have hc : (List.range (l.order + 1)).filterMap (fun _ => (none : Option Nat)) = [] :=
    List.filterMap_eq_nil_iff.mpr fun _ _ => rfl
  simp [loadLines, List.filterMap_flatMap, Function.comp_def, apply_ite (List.filterMap _), Row.loadNo?, hc,
    ← List.map_eq_flatMap]

/-- **one load entry per load and loaded pulse** (a line for an impedance load, a header with `order + 1` coefficient
lines for an S-parameter load), naming `idx + 1`, in the order of the loads and of their attachments … -/
theorem C19_load_lines (ls : List RLoad) :
    (loads ls).filterMap Row.loadNo? = (ls.flatMap (·.pulses)).map (· + 1) := by
  simp only [loads, List.filterMap_cons, Row.loadNo?, List.filterMap_flatMap, List.map_flatMap, loadLines_numbers]

/-- … and **the announced NUMBER OF LOADS is the number of entries that follow** -/
theorem C19_load_count (ls : List RLoad) :
    (loads ls).head? = some (Row.loadCount ((loads ls).filterMap Row.loadNo?).length) := by
  rw [C19_load_lines]
  unfold loads
  simp only [List.head?_cons, List.length_map, List.length_flatMap]

/-- every S-parameter header is followed by exactly `order + 1` coefficient lines -/
theorem C19_spar_block (l : RLoad) (p : Nat) (h : l.spar = true) :
    loadLines { l with pulses := [p] } =
      Row.sparHead (p + 1) l.order :: (List.range (l.order + 1)).map Row.sparCoef := by
  simp [loadLines, h]

theorem curBlock_numbers (isJ : Nat → Bool) (o : RObj) :
    (curBlock isJ o).filterMap Row.curNo? = (o.pulses.filter (fun p => !isJ p)).map (· + 1) := by
  have h := filterMap_rows Row.curNo? Row.curRow (fun _ => rfl) (o.pulses.filter (fun p => !isJ p))
  have hhead : Row.curNo? (Row.curHead o.tag) = none := rfl
  have hend : ∀ c : Bool, Row.curNo? (if c then Row.curJ else Row.curE) = none := by decide
  simp [curBlock, apply_ite (List.filterMap _), hhead, hend, h]

/-- the numbered rows of the current table are, block after block, the pulses of each object that are not
junction pulses … -/
theorem C19_current_rows (isJ : Nat → Bool) (objs : List RObj) :
    (currents isJ objs).filterMap Row.curNo? =
      ((objs.flatMap (·.pulses)).filter (fun p => !isJ p)).map (· + 1) := by
  simp only [currents, List.filterMap_flatMap, List.filter_flatMap, List.map_flatMap, curBlock_numbers]

/-- … hence **every pulse that is not a junction pulse has exactly one numbered current row, in the block of its
owner** (junction pulses are the `J` lines of that block: C09) -/
theorem C19_current_complete (isJ : Nat → Bool) (objs : List RObj) (N : Nat)
    (hnum : objs.flatMap (·.pulses) = List.range N) :
    (currents isJ objs).filterMap Row.curNo? = ((List.range N).filter (fun p => !isJ p)).map (· + 1) := by
  rw [C19_current_rows, hnum]

/-- every object block of the current table has an end line (`E` or `J`) for each end that is not grounded -/
theorem C19_current_ends (isJ : Nat → Bool) (o : RObj) :
    ((curBlock isJ o).filter (fun r => r == Row.curE || r == Row.curJ)).length
      = (if o.g0 then 0 else 1) + (if o.g1 then 0 else 1) := by
  have hrow : ∀ l : List Nat, (l.map (fun p => Row.curRow (p + 1))).filter (fun r => r == Row.curE || r == Row.curJ) = [] :=
    fun l => by simp [List.filter_eq_nil_iff]
  simp [curBlock, apply_ite (List.filter _), apply_ite List.length, hrow]

/-! A projection that recognises none of the rows a section is made of finds nothing in that section; for each of the
five projections of `C19_structure` and each of the four other sections the hypotheses hold by `rfl`. -/

theorem geometry_none (f : Row → Option Nat) (objs : List RObj) (hh : ∀ t, f (.geoHead t) = none := by intros; rfl)
    (hn : f .geoNone = none := by intros; rfl) (hr : ∀ n, f (.geoRow n) = none := by intros; rfl) :
    (geometry objs).filterMap f = [] := by
  simp [geometry, geoBlock, List.filterMap_flatMap, hh, hn, hr]

theorem sources_none (f : Row → Option Nat) (srcs : List Nat) (hc : ∀ n, f (.srcCount n) = none := by intros; rfl)
    (hl : ∀ n, f (.srcLine n) = none := by intros; rfl) : (sources srcs).filterMap f = [] := by
  simp [sources, hc, hl]

theorem loads_none (f : Row → Option Nat) (ls : List RLoad) (hc : ∀ n, f (.loadCount n) = none := by intros; rfl)
    (hi : ∀ n, f (.impLine n) = none := by intros; rfl) (hh : ∀ n k, f (.sparHead n k) = none := by intros; rfl)
    (hk : ∀ d, f (.sparCoef d) = none := by intros; rfl) : (loads ls).filterMap f = [] := by
  simp [loads, loadLines, List.filterMap_flatMap, apply_ite (List.filterMap f), hc, hi, hh, hk]

theorem sourceData_none (f : Row → Option Nat) (srcs : List Nat) (hd : ∀ n, f (.srcData n) = none := by intros; rfl) :
    (sourceData srcs).filterMap f = [] := by
  simp [sourceData, hd]

theorem currents_none (f : Row → Option Nat) (isJ : Nat → Bool) (objs : List RObj)
    (hh : ∀ t, f (.curHead t) = none := by intros; rfl) (he : f .curE = none := by intros; rfl)
    (hj : f .curJ = none := by intros; rfl) (hr : ∀ n, f (.curRow n) = none := by intros; rfl) :
    (currents isJ objs).filterMap f = [] := by
  simp [currents, curBlock, List.filterMap_flatMap, apply_ite (List.filterMap f), apply_ite f, hh, he, hj, hr]

/-- in the complete report the sections do not interfere: the geometry rows, load entries and current rows of the
report are those of their sections -/
theorem C19_structure (isJ : Nat → Bool) (objs : List RObj) (srcs : List Nat) (ls : List RLoad) (N : Nat)
    (hnum : objs.flatMap (·.pulses) = List.range N) :
    (report isJ objs srcs ls).filterMap Row.geoNo? = (List.range N).map (· + 1) ∧
    (report isJ objs srcs ls).filterMap Row.loadNo? = (ls.flatMap (·.pulses)).map (· + 1) ∧
    (report isJ objs srcs ls).filterMap Row.curNo? = ((List.range N).filter (fun p => !isJ p)).map (· + 1) ∧
    (report isJ objs srcs ls).filterMap srcNo? = srcs.map (· + 1) ∧
    (report isJ objs srcs ls).filterMap dataNo? = srcs.map (· + 1) := by
  simp only [report, List.filterMap_append, List.nil_append, List.append_nil,
    sources_none Row.geoNo? srcs, loads_none Row.geoNo? ls, sourceData_none Row.geoNo? srcs, currents_none Row.geoNo? isJ objs,
    geometry_none Row.loadNo? objs, sources_none Row.loadNo? srcs, sourceData_none Row.loadNo? srcs, currents_none Row.loadNo? isJ objs,
    geometry_none Row.curNo? objs, sources_none Row.curNo? srcs, loads_none Row.curNo? ls, sourceData_none Row.curNo? srcs,
    geometry_none srcNo? objs, loads_none srcNo? ls, sourceData_none srcNo? srcs, currents_none srcNo? isJ objs,
    geometry_none dataNo? objs, sources_none dataNo? srcs, loads_none dataNo? ls, currents_none dataNo? isJ objs]
  exact ⟨(C19_geometry_complete objs N hnum).1, C19_load_lines ls, C19_current_complete isJ objs N hnum,
    (C19_source_blocks srcs).1, (C19_source_blocks srcs).2.1⟩

/-! two wires joined end to end (pulse 2 is the junction pulse, owned by the second wire), a source on
pulse 1, an impedance load on pulses 0 and 3 and a second-order S-parameter load on pulse 2 -/
example :
    let objs : List RObj := [⟨1, [0, 1], false, false, false, true, false⟩, ⟨2, [2, 3], false, false, true, false, false⟩]
    objs.flatMap (·.pulses) = List.range 4 ∧
    (report (fun p => p == 2) objs [1] [⟨false, 0, [0, 3]⟩, ⟨true, 2, [2]⟩]).length = 25 := by
  decide

end Pmn.Props.C19c
