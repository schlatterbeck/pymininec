/-
C08 — loads act as the series circuit elements they describe.

Over ℂ (Mathlib), for the model functions of `Pmn.Model.Circuit`.
-/
import Pmn.Proofs.Inst
import Pmn.Proofs.Lin
import Mathlib.Data.List.GetD
import Mathlib.Tactic.FieldSimp
import Mathlib.Tactic.Ring
import Mathlib.Tactic.LinearCombination

namespace Pmn.Props.C08
open Pmn.Circuit Matrix

variable {n : Type} [Fintype n] [DecidableEq n]

theorem feed_shift {K : Type} [Field K] (Z : Matrix n n K) (hZ : IsUnit Z.det) (p : n) (d b : K)
    (I I' : n → K) (hI : Z *ᵥ I = b • Pi.single p 1)
    (hI' : (Z + d • Matrix.single p p (1 : K)) *ᵥ I' = b • Pi.single p 1)
    (hb : b ≠ 0) (hIp : I p ≠ 0) (hIp' : I' p ≠ 0) :
    1 / I' p = 1 / I p + d / b := by
  -- `Z I' = (b − d I'_p) e_p`, a multiple of `Z I`: so `b I' = (b − d I'_p) I`
  have h2 : Z *ᵥ I' = (b - d * I' p) • Pi.single p 1 := by
    rw [Matrix.add_mulVec, Matrix.smul_mulVec, Matrix.single_mulVec_eq, one_mul, smul_smul] at hI'
    rw [sub_smul, ← hI', add_sub_cancel_right]
  have h4 : b • I' = (b - d * I' p) • I := by
    apply Pmn.Lin.mulVec_injective hZ
    rw [Matrix.mulVec_smul, Matrix.mulVec_smul, h2, hI, smul_comm]
  have h5 : b * I' p = (b - d * I' p) * I p := congrFun h4 p
  field_simp
  linear_combination -h5

/-- load and excitation on a pulse carry the same weight (`−j/m`, doubled on a grounded pulse) -/
theorem same_weight (minv : ℂ) (g : Bool) (hm : minv ≠ 0) :
    ∃ c : ℂ, c ≠ 0 ∧ (∀ z, loadIncr minv g z = c * z) ∧ ∀ v, rhsEntry minv g v = c * v := by
  refine ⟨-Complex.I * minv * if g then 2 else 1, ?_, fun z => ?_, fun v => ?_⟩
  · cases g <;> simp [hm]
  · unfold loadIncr
    cases g <;> simp only [Bool.false_eq_true, if_false, if_true, HasI.I, Nat.cast_ofNat] <;> ring
  · unfold rhsEntry
    cases g <;> simp only [Bool.false_eq_true, if_false, if_true, HasI.I, Nat.cast_ofNat] <;> ring

/-- **a lumped load `Z_L` on the feed pulse raises the feed impedance by exactly `Z_L`** — also on
a grounded pulse: with `Z·I = rhs`, `(Z + loadIncr·E_pp)·I' = rhs`, `rhs = rhsEntry(V)·e_p`:
`V / I'_p = V / I_p + Z_L`. -/
theorem C08_feed_shift (Z : Matrix n n ℂ) (hZ : IsUnit Z.det) (p : n) (minv zl v : ℂ) (g : Bool)
    (I I' : n → ℂ) (hm : minv ≠ 0) (hv : v ≠ 0)
    (hI : Z *ᵥ I = rhsEntry minv g v • Pi.single p 1)
    (hI' : (Z + loadIncr minv g zl • Matrix.single p p (1 : ℂ)) *ᵥ I' = rhsEntry minv g v • Pi.single p 1)
    (hIp : I p ≠ 0) (hIp' : I' p ≠ 0) :
    srcImpedance v (I' p) = srcImpedance v (I p) + zl := by
  obtain ⟨c, hc, hl, hr⟩ := same_weight minv g hm
  rw [hl, hr] at hI'
  rw [hr] at hI
  have := feed_shift Z hZ p _ _ I I' hI hI' (mul_ne_zero hc hv) hIp hIp'
  unfold srcImpedance
  field_simp at this ⊢
  linear_combination this

theorem loadIncr_add (minv : ℂ) (g : Bool) (z1 z2 : ℂ) :
    loadIncr minv g (z1 + z2) = loadIncr minv g z1 + loadIncr minv g z2 := by
  unfold loadIncr; ring

/-- **several loads on one pulse act as their sum**: the diagonal increment of a pulse is the
weight of the sum of the impedances attached to it -/
theorem C08_sum (minv : ℂ) (g : Nat → Bool) (att : List (Nat × ℂ)) (p : Nat) :
    loadDiagAt minv g att p
      = loadIncr minv (g p) ((att.filter (fun a => a.1 == p)).map (·.2)).sum := by
  unfold loadDiagAt
  rw [Nat.cast_zero, ← List.sum_eq_foldl]
  induction att.filter (fun a => a.1 == p) with
  | nil => simp [loadIncr]
  | cons a r ih => simp [List.sum_cons, loadIncr_add, ih]

/-- a zero load changes nothing -/
theorem C08_zero_load (minv : ℂ) (g : Bool) : loadIncr minv g 0 = 0 := by
  unfold loadIncr; simp

/-- `Σ_j c_j·s^j`, the polynomial with coefficient list `c` -/
def polySum : List ℂ → ℂ → ℂ
  | [], _ => 0
  | x :: r, s => x + s * polySum r s

theorem polySum_pad (c : List ℂ) (n : Nat) (s : ℂ) : polySum (pad c n) s = polySum c s := by
  unfold pad
  generalize n - c.length = k
  rw [Nat.cast_zero]
  induction c with
  | nil =>
    induction k with
    | zero => rfl
    | succ k ih => simp_all [List.replicate_succ, polySum]
  | cons x r ih => rw [List.cons_append, polySum, polySum, ih]

theorem polySum_eq_sum (c : List ℂ) (n : Nat) (s : ℂ) (h : c.length ≤ n) :
    polySum c s = ((List.range n).map fun j => c.getD j 0 * s ^ j).sum := by
  induction c generalizing n with
  | nil => simp [polySum]
  | cons x r ih =>
    cases n with
    | zero => simp at h
    | succ m =>
      rw [polySum, ih m (Nat.le_of_succ_le_succ h), List.sum_range_succ', ← List.sum_map_mul_left]
      simp only [List.getD_cons_zero, List.getD_cons_succ, pow_zero, mul_one, pow_succ]
      congr 3
      funext j
      ring

/-- the loop of `Laplace_Load.impedance` accumulates `m·Σ_j b_j·s^j` and `m·Σ_j a_j·s^j` -/
theorem laplaceLoop_sum (s : ℂ) (l : List (ℂ × ℂ)) (m u d : ℂ) :
    laplaceLoop s l m u d = (u + m * polySum (l.map Prod.snd) s, d + m * polySum (l.map Prod.fst) s) := by
  induction l generalizing m u d with
  | nil => simp [laplaceLoop, polySum]
  | cons x r ih =>
    rw [laplaceLoop, ih, List.map_cons, List.map_cons, polySum, polySum]
    congr 1 <;> ring

theorem laplace_eq_polySum (a b : List ℂ) (w : ℂ) :
    laplace a b w = polySum b (Complex.I * w) / polySum a (Complex.I * w) := by
  have hl : (pad a (max a.length b.length)).length = (pad b (max a.length b.length)).length := by simp [pad]
  unfold laplace
  simp only [laplaceLoop_sum, List.map_fst_zip hl.le, List.map_snd_zip hl.ge, polySum_pad, HasI.I, Nat.cast_zero,
    Nat.cast_one, zero_add, one_mul]

/-- **a Laplace load is the ratio of its two polynomials in `s = jω`** (coefficient lists of any length, zero-padded
to a common length as `Laplace_Load.__init__` does) -/
theorem C08_laplace_is_ratio (a b : List ℂ) (w : ℂ) :
    laplace a b w =
      ((List.range (max a.length b.length)).map (fun j => b.getD j 0 * (Complex.I * w) ^ j)).sum /
      ((List.range (max a.length b.length)).map (fun j => a.getD j 0 * (Complex.I * w) ^ j)).sum := by
  rw [laplace_eq_polySum, polySum_eq_sum a _ _ (le_max_left _ _), polySum_eq_sum b _ _ (le_max_right _ _)]

/-- `R or 0` is `R` -/
theorem truthy_getD (x : ℂ) : (if truthy (fun x => decide (x = 0)) (some x) then (some x).getD 0 else 0) = x := by
  unfold truthy
  by_cases h : x = 0 <;> simp [h]

/-- **series RLC** with a capacitor: `R + jωL + 1/(jωC)` at every frequency -/
theorem C08_rlc (R L Cp w : ℂ) (hC : Cp ≠ 0) (hw : w ≠ 0) :
    laplace (rlcCoeffs (fun x => decide (x = 0)) (some R) (some L) (some Cp)).1
            (rlcCoeffs (fun x => decide (x = 0)) (some R) (some L) (some Cp)).2 w
      = R + (Complex.I * w) * L + 1 / ((Complex.I * w) * Cp) := by
  have hs : Complex.I * w ≠ 0 := mul_ne_zero Complex.I_ne_zero hw
  unfold rlcCoeffs
  simp only [truthy_getD, hC, decide_false, Bool.false_eq_true, if_false, laplace_eq_polySum, polySum, Nat.cast_zero,
    Nat.cast_one, mul_zero, add_zero, zero_add]
  field_simp
  ring

/-- series RL (no capacitor given): `R + jωL` -/
theorem C08_rl (R L w : ℂ) :
    laplace (rlcCoeffs (fun x => decide (x = 0)) (some R) (some L) none).1
            (rlcCoeffs (fun x => decide (x = 0)) (some R) (some L) none).2 w
      = R + (Complex.I * w) * L := by
  unfold rlcCoeffs
  simp only [truthy_getD, laplace_eq_polySum, polySum, Nat.cast_zero, Nat.cast_one, mul_zero, add_zero, div_one]

/-- **trap**: `(R + jωL)` in parallel with `C`: `1 / (1/(R + jωL) + jωC)` -/
theorem C08_trap (R L Cp w : ℂ) (h1 : R + Complex.I * w * L ≠ 0)
    (h2 : 1 + R * Cp * (Complex.I * w) + L * Cp * (Complex.I * w) ^ 2 ≠ 0) :
    laplace (trapCoeffs R L Cp).1 (trapCoeffs R L Cp).2 w
      = 1 / (1 / (R + Complex.I * w * L) + Complex.I * w * Cp) := by
  unfold trapCoeffs
  simp only [laplace_eq_polySum, polySum, Nat.cast_one, mul_zero, add_zero]
  field_simp

/-- conductivity `s` and resistivity `1/s` are interchangeable (`self.conductivity = 1 / self.resistivity`) -/
theorem C08_sigma_rho (s : ℝ) (hs : s ≠ 0) : 1 / (1 / s) = s := one_div_one_div s

/-- insulation with relative permittivity 1 adds nothing … -/
theorem C08_insulation_neutral (mu0 twopi a b : ℝ) (ln : ℝ → ℝ) :
    insulZins mu0 twopi ln a b 1 = 0 := by
  unfold insulZins; simp

/-- … and leaves the radius unchanged: `b·(a/b)^(1/1) = a` -/
theorem C08_equiv_radius_neutral (a b : ℝ) (ha : 0 < a) (hb : 0 < b) :
    equivRadius Real.rpow a b 1 = a := by
  unfold equivRadius
  simp only [Nat.cast_one, div_one]
  show b * ((a / b) ^ (1 : ℝ)) = a
  rw [Real.rpow_one]
  field_simp

/-- skin effect: the internal impedance per length is `k/(2π r σ)·B` with `|B|` bounded; for the
asymptotic branch (`B = j`) its modulus is `sqrt(ω μ0 / σ) / (2π r)`, which tends to 0 as σ → ∞.
Stated as the closed form of the squared modulus: `|z|² = ω μ0 / (σ (2π r)²)`. -/
theorem C08_skin_asymptotic (omg mu0 sigma r twopi : ℝ) (hs : 0 < sigma) (hr : 0 < r) (ht : 0 < twopi)
    (ho : 0 ≤ omg) (hm : 0 ≤ mu0) (sqrtC : ℂ → ℂ) (hsq : ∀ z, sqrtC z * sqrtC z = z) :
    Complex.normSq (skinZint sqrtC (fun _ => 0) (fun _ => false)
        (omg : ℂ) (mu0 : ℂ) (sigma : ℂ) (r : ℂ) (twopi : ℂ))
      = omg * mu0 / (sigma * (twopi * r) ^ 2) := by
  have hk : Complex.normSq (sqrtC (-Complex.I * ↑omg * ↑mu0 * ↑sigma)) = omg * mu0 * sigma := by
    rw [Complex.normSq_eq_norm_sq, sq, ← norm_mul, hsq]
    simp only [norm_mul, norm_neg, Complex.norm_I, Complex.norm_real, Real.norm_eq_abs, abs_of_nonneg ho,
      abs_of_nonneg hm, abs_of_pos hs, one_mul]
  unfold skinZint
  simp only [Bool.false_eq_true, if_false, HasI.I]
  rw [map_mul, map_div₀, hk, Complex.normSq_I, mul_one]
  simp only [← Complex.ofReal_mul, Complex.normSq_ofReal]
  field_simp

example : (1 : ℂ) ≠ 0 ∧ (2 : ℂ) ≠ 0 := ⟨one_ne_zero, two_ne_zero⟩

/-- **a distributed load adds to each pulse the per-length impedance times the conductor length the pulse
represents**: the sum over the halves of length × per-length value … -/
theorem C08_distributed_sum (halves : List (Option ℂ × ℂ)) :
    distImpedance halves = (halves.map distTerm).sum := by
  unfold distImpedance
  rw [List.sum_eq_foldl, List.foldl_map, Nat.cast_zero]

/-- … for a pulse inside one wire (both halves on the same wire): per-length impedance × (l₁ + l₂); a half whose
wire carries no load contributes nothing -/
theorem C08_distributed (z l1 l2 : ℂ) :
    distImpedance [(some z, l1), (some z, l2)] = (l1 + l2) * z ∧
    distImpedance [(some z, l1), (none, l2)] = l1 * z ∧
    distImpedance [(none, l1), (none, l2)] = (0 : ℂ) := by
  refine ⟨?_, ?_, ?_⟩ <;> simp [distImpedance, distTerm]
  ring

/-- closed form: the one loaded object of the pulse, the owner if both are loaded -/
theorem distLoadsOf_eq (owner g0 g1 : Nat) (loaded : Nat → Bool) (ho : owner = g0 ∨ owner = g1) :
    distLoadsOf owner g0 g1 loaded
      = if loaded g0 then (if loaded g1 then [owner] else [g0]) else if loaded g1 then [g1] else [] := by
  unfold distLoadsOf
  by_cases h : g0 = g1
  · obtain rfl : owner = g0 := ho.elim id (h ▸ id)
    subst h
    cases loaded owner <;> simp
  · cases h0 : loaded g0 <;> cases h1 : loaded g1 <;> rcases ho with rfl | rfl <;> simp [h, h0, h1]

/-- **every pulse is charged its distributed load exactly once**: a pulse one of whose halves lies on a loaded object is
listed by exactly one per-object load (whose `impedance` then sums over both halves, `C08_distributed_sum`), a pulse
without a loaded half by none — for every assignment of loads to objects, interior and junction pulses alike -/
theorem C08_distributed_once (owner g0 g1 : Nat) (loaded : Nat → Bool) (ho : owner = g0 ∨ owner = g1) :
    (distLoadsOf owner g0 g1 loaded).length = if loaded g0 || loaded g1 then 1 else 0 := by
  rw [distLoadsOf_eq owner g0 g1 loaded ho]
  cases loaded g0 <;> cases loaded g1 <;> rfl

/-- the load that lists the pulse is one whose object carries a half of it -/
theorem C08_distributed_whose (owner g0 g1 : Nat) (loaded : Nat → Bool) (ho : owner = g0 ∨ owner = g1) :
    ∀ w ∈ distLoadsOf owner g0 g1 loaded, (w = g0 ∨ w = g1) ∧ loaded w = true := by
  rw [distLoadsOf_eq owner g0 g1 loaded ho]
  intro w hw
  cases h0 : loaded g0 <;> cases h1 : loaded g1 <;> simp [h0, h1] at hw
  · exact ⟨.inr hw, hw ▸ h1⟩
  · exact ⟨.inl hw, hw ▸ h0⟩
  · subst hw; exact ⟨ho, ho.elim (· ▸ h0) (· ▸ h1)⟩

end Pmn.Props.C08
