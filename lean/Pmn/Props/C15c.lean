/-
C15 (continued) — "same objects with tags, tapering and transformations": the transformation options round trip.

`main` collects all `--geo-rotate` options, then all `--geo-translate` options, and applies them stably sorted by
their key (`Pmn.Geom.orderTransforms`); `Geo_Container.as_cmdline` writes the applied list in its order, rotations and
translations mixed.  Reading that back gives the same list again.
-/
import Pmn.Props.C13

namespace Pmn.Props.C15c
open Pmn.Geom Pmn.Props.C13

abbrev T := Transform ℝ

theorem mem_ins (t : T) (l : List T) (y : T) : y ∈ insertT t l ↔ y = t ∨ y ∈ l := by
  rw [insertT_eq]; exact InsertSort.mem_ins _

/-- **transformations round trip**: the list `main` applies (rotations `R` and translations `L` of the command line,
stably sorted by key) is what `as_cmdline` writes; reading that back gives the same list -/
theorem C15_transforms (R L : List T) (hR : ∀ t ∈ R, isRot t = true) (hL : ∀ t ∈ L, isRot t = false) :
    readTransforms (orderTransforms R L) = orderTransforms R L := by
  have h1 : (R ++ L).filter isRot = R := by
    rw [List.filter_append, List.filter_eq_self.mpr hR, List.filter_eq_nil_iff.mpr fun t ht => by simp [hL t ht],
      List.append_nil]
  have h2 : (R ++ L).filter (fun t => !isRot t) = L := by
    rw [List.filter_append, List.filter_eq_nil_iff.mpr fun t ht => by simp [hR t ht],
      List.filter_eq_self.mpr fun t ht => by simp [hL t ht], List.nil_append]
  -- the rotations of the sorted list are the sorted rotations, likewise the translations …
  rw [readTransforms, orderTransforms_eq, orderTransforms_eq, InsertSort.insAll_filter _ _ _ List.Pairwise.nil,
    InsertSort.insAll_filter _ _ _ List.Pairwise.nil, h1, h2, List.filter_nil, List.filter_nil]
  -- … and sorting the two sorted lists one after the other is sorting `R ++ L`
  rw [InsertSort.insAll_append, InsertSort.insAll_append, InsertSort.insAll_insAll _ List.Pairwise.nil R,
    InsertSort.insAll_nil, InsertSort.insAll_insAll _ List.Pairwise.nil L, InsertSort.insAll_nil]

/-- reading is idempotent on what it produces, for any option list (also one written by hand in any order) -/
theorem C15_transforms_idem (opts : List T) :
    readTransforms (readTransforms opts) = readTransforms opts := by
  unfold readTransforms
  exact C15_transforms _ _ (fun t ht => (List.mem_filter.mp ht).2)
    (fun t ht => by simpa using (List.mem_filter.mp ht).2)

example : ∀ t ∈ [(⟨2, .rotate, ⟨0, 0, 90⟩, none⟩ : T), ⟨1, .rotate, ⟨0, 0, 45⟩, some 3⟩], isRot t = true := by
  decide

end Pmn.Props.C15c
