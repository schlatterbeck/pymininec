/-
C12 (continued) — "two wire ends are joined exactly when they are closer than 1/1000 of the shortest segment".

`C12_match_local` is the rule for one lookup.  Here the rule is lifted to the whole structure: `matchAll` (the
geometric half of `compute_connections`: exact tuple first, else the first known end within the tolerance, aliases
added to the registry) is followed over any number of objects in any order with an invariant on the registry, and
under the hypothesis that "within the tolerance" is an equivalence relation on the end points (which holds for every
*separated* point set: any two ends are within `tol` or more than `2·tol` apart — `separated_equiv`, by the triangle
inequality) two ends get the same registering end **iff** they are within the tolerance of each other.
-/
import Pmn.Props.C12
import Pmn.Proofs.Vec
import Mathlib.Data.Real.Basic
import Mathlib.Analysis.SpecialFunctions.Sqrt
import Mathlib.Tactic.Linarith
import Mathlib.Tactic.NormNum

namespace Pmn.Props.C12b
open Pmn.Topo

noncomputable section

abbrev P := V3 ℝ
abbrev Lbl := Nat × Nat
abbrev Reg := List (P × Lbl)

/-- "the new point `p` matches the known point `q`" as `lookup` decides it -/
def cl (tol : ℝ) (p q : P) : Prop := veq q p = true ∨ V3.norm (p - q) ≤ tol

theorem veq_iff (a b : P) : veq a b = true ↔ a = b := by
  cases a; cases b; simp [veq, and_assoc]

theorem lookup_some (tol : ℝ) (reg : Reg) (p : P) (v : Lbl) (ex : Bool) (h : lookup reg p tol = some (v, ex)) :
    ∃ e ∈ reg, e.2 = v ∧ cl tol p e.1 ∧ (ex = true → e.1 = p) := by
  unfold lookup at h
  split at h
  · rename_i r hr
    cases h
    have hv : veq r.1 p = true := by simpa using List.find?_some hr
    exact ⟨r, List.mem_of_find?_eq_some hr, rfl, Or.inl hv, fun _ => (veq_iff _ _).mp hv⟩
  · split at h
    · rename_i r hr
      cases h
      exact ⟨r, List.mem_of_find?_eq_some hr, rfl, Or.inr (by simpa using List.find?_some hr), nofun⟩
    · cases h

theorem lookup_none (tol : ℝ) (reg : Reg) (p : P) (h : lookup reg p tol = none) :
    ∀ e ∈ reg, ¬ cl tol p e.1 := by
  intro e he hc
  have := (Pmn.Props.C12.C12_match_local reg p tol).mpr ⟨e, he, hc⟩
  rw [h] at this
  simp at this

structure Rec where
  pt : P
  lbl : Lbl
  hit : Option Lbl

def Rec.rep (d : Rec) : Lbl := d.hit.getD d.lbl

structure EquivOn (tol : ℝ) (S : P → Prop) : Prop where
  refl : ∀ a, S a → cl tol a a
  symm : ∀ a b, S a → S b → cl tol a b → cl tol b a
  trans : ∀ a b c, S a → S b → S c → cl tol a b → cl tol b c → cl tol a c

/-- The state invariant, for the ends processed so far: the registry lists them under their representatives, every
representative is the label of one of them (so that a new label is no representative yet), and they have the same
representative exactly when they are close. -/
structure Inv (tol : ℝ) (S : P → Prop) (reg : Reg) (done : List Rec) : Prop where
  pts : ∀ d ∈ done, S d.pt
  reg : ∀ e, e ∈ reg ↔ ∃ d ∈ done, (d.pt, d.rep) = e
  rep : ∀ d ∈ done, d.rep ∈ done.map (·.lbl)
  iff : ∀ d ∈ done, ∀ d' ∈ done, d.rep = d'.rep ↔ cl tol d.pt d'.pt

/-- what has to be known of a new end `x` -/
theorem Inv.snoc {tol : ℝ} {S : P → Prop} {reg reg' : Reg} {done : List Rec} (hE : EquivOn tol S)
    (hI : Inv tol S reg done) (x : Rec) (hx : S x.pt)
    (hreg : ∀ e, e ∈ reg' ↔ e ∈ reg ∨ (x.pt, x.rep) = e)
    (hrep : x.rep ∈ done.map (·.lbl) ∨ x.rep = x.lbl)
    (hcross : ∀ d ∈ done, d.rep = x.rep ↔ cl tol d.pt x.pt) : Inv tol S reg' (done ++ [x]) := by
  refine ⟨?_, fun e => ?_, ?_, ?_⟩
  · simpa only [List.forall_mem_append, List.forall_mem_singleton] using ⟨hI.pts, hx⟩
  · simp only [hreg, hI.reg, List.mem_append, List.mem_singleton, or_and_right, exists_or, exists_eq_left]
  · rw [List.forall_mem_append, List.forall_mem_singleton]
    simp only [List.map_append, List.mem_append, List.map_cons, List.map_nil, List.mem_singleton]
    exact ⟨fun d hd => Or.inl (hI.rep d hd), hrep⟩
  · simp only [List.forall_mem_append, List.forall_mem_singleton]
    refine ⟨fun d hd => ⟨hI.iff d hd, hcross d hd⟩, fun d hd => ?_, iff_of_true trivial (hE.refl _ hx)⟩
    rw [eq_comm, hcross d hd]
    exact ⟨hE.symm _ _ (hI.pts d hd) hx, hE.symm _ _ hx (hI.pts d hd)⟩

/-- one end as `matchAll.go` treats it: the hit and the new registry -/
def endStep (tol : ℝ) (reg : Reg) (g : Bool) (p : P) (l : Lbl) : Option Lbl × Reg :=
  if g then (none, reg) else
  match lookup reg p tol with
  | some (v, exact) => (some v, if exact then reg else reg ++ [(p, v)])
  | none => (none, reg ++ [(p, l)])

theorem matchAll_go_cons (tol : ℝ) (o : EndsIn ℝ) (r : List (EndsIn ℝ)) (n : Nat) (reg : Reg) :
    matchAll.go tol (o :: r) n reg =
      ⟨o.nseg, o.g0, o.g1, (endStep tol reg o.g0 o.p0 (0, n)).1,
        (endStep tol (endStep tol reg o.g0 o.p0 (0, n)).2 o.g1 o.p1 (1, n)).1⟩ ::
      matchAll.go tol r (n + 1) (endStep tol (endStep tol reg o.g0 o.p0 (0, n)).2 o.g1 o.p1 (1, n)).2 := rfl

theorem inv_endStep {tol : ℝ} {S : P → Prop} {reg : Reg} {done : List Rec} (hE : EquivOn tol S)
    (hI : Inv tol S reg done) (g : Bool) (p : P) (l : Lbl) (hp : g = false → S p) (hl : ∀ d ∈ done, d.lbl ≠ l) :
    Inv tol S (endStep tol reg g p l).2 (done ++ if g then [] else [⟨p, l, (endStep tol reg g p l).1⟩]) := by
  unfold endStep
  cases g with
  | true => simpa using hI
  | false =>
    have hp := hp rfl
    simp only [Bool.false_eq_true, if_false]
    cases hlk : lookup reg p tol with
    | none =>
      refine hI.snoc hE ⟨p, l, none⟩ hp (fun e => by simp [eq_comm, Rec.rep]) (Or.inr rfl) fun d hd => ?_
      -- a known end close to `p` would have been found in the registry
      refine iff_of_false (fun (h : d.rep = l) => ?_) fun h => ?_
      · obtain ⟨g, hg, hgl⟩ := List.mem_map.mp (hI.rep d hd)
        exact hl g hg (hgl.trans h)
      · exact lookup_none tol reg p hlk _ ((hI.reg _).mpr ⟨d, hd, rfl⟩) (hE.symm _ _ (hI.pts d hd) hp h)
    | some ve =>
      obtain ⟨v, ex⟩ := ve
      obtain ⟨e, he, rfl, hec, hex⟩ := lookup_some tol reg p _ ex hlk
      obtain ⟨d0, hd0, rfl⟩ := (hI.reg e).mp he
      -- `p` is close to the processed end `d0` and takes its representative
      have h0 := hI.pts d0 hd0
      refine hI.snoc hE ⟨p, l, some d0.rep⟩ hp (fun e => ?_) (Or.inl (hI.rep d0 hd0)) fun d hd => ?_
      · cases ex with
        | true =>
          obtain rfl : d0.pt = p := hex rfl
          exact (or_iff_left_of_imp fun h => h ▸ he).symm
        | false => simp [eq_comm, Rec.rep]
      · have hd' := hI.pts d hd
        exact (hI.iff d hd d0 hd0).trans
          ⟨fun h => hE.trans _ _ _ hd' h0 hp h (hE.symm _ _ hp h0 hec), fun h => hE.trans _ _ _ hd' hp h0 h hec⟩

/-- the records of the ends that are not on the ground, with the hits `ins` assigns to them; the lists are meant to be
equally long (as `matchAll objs` and `objs` are): past the shorter one nothing is recorded -/
def recordsFrom : Nat → List (EndsIn ℝ) → List ObjIn → List Rec
  | n, o :: r, i :: is =>
    (if o.g0 then [] else [⟨o.p0, (0, n), i.h0⟩]) ++ (if o.g1 then [] else [⟨o.p1, (1, n), i.h1⟩]) ++ recordsFrom (n + 1) r is
  | _, _, _ => []

/-- the points of the ends that are not on the ground -/
def endPts : List (EndsIn ℝ) → List P
  | [] => []
  | o :: r => (if o.g0 then [] else [o.p0]) ++ (if o.g1 then [] else [o.p1]) ++ endPts r

theorem forall_mem_ite_nil {α : Type} {g : Bool} {x : α} {Q : α → Prop} (h : Q x) : ∀ d ∈ (if g then [] else [x]), Q d := by
  cases g <;> simp [h]

/-- `Inv` is kept along `matchAll.go`: `done` the ends so far, `os` the remaining objects, numbered from `n` -/
theorem matchAll_go_inv {tol : ℝ} {S : P → Prop} (hE : EquivOn tol S) (os : List (EndsIn ℝ)) (n : Nat) (reg : Reg) (done : List Rec)
    (hI : Inv tol S reg done) (hlt : ∀ d ∈ done, d.lbl.2 < n) (hos : ∀ p ∈ endPts os, S p) :
    ∃ reg', Inv tol S reg' (done ++ recordsFrom n os (matchAll.go tol os n reg)) := by
  induction os generalizing n reg done with
  | nil => exact ⟨reg, by simpa [recordsFrom] using hI⟩
  | cons o r ih =>
    rw [matchAll_go_cons]
    simp only [recordsFrom, ← List.append_assoc]
    -- the two labels of object `n` are new: the earlier ones carry smaller object numbers
    have h0 := inv_endStep hE hI o.g0 o.p0 (0, n) (fun h => hos _ (by simp [endPts, h]))
      (fun d hd h => (hlt d hd).ne (congrArg Prod.snd h))
    have h1 := inv_endStep hE h0 o.g1 o.p1 (1, n) (fun h => hos _ (by simp [endPts, h]))
      (List.forall_mem_append.mpr ⟨fun d hd h => (hlt d hd).ne (congrArg Prod.snd h), forall_mem_ite_nil (by simp)⟩)
    refine ih (n + 1) _ _ h1 ?_ (fun p hp => hos p (by simp [endPts, hp]))
    simp only [List.forall_mem_append]
    exact ⟨⟨fun d hd => Nat.lt_succ_of_lt (hlt d hd), forall_mem_ite_nil n.lt_succ_self⟩, forall_mem_ite_nil n.lt_succ_self⟩

/-- **two wire ends are joined exactly when they are close**: when "within the tolerance (or equal)" is an
equivalence relation on the end points of the structure — every two ends are either within the tolerance of each other
or clearly apart — the ends that `compute_connections` attaches to one registering end (the same representative) are
exactly the ends that are close to each other, for any number of objects in any order -/
theorem C12_join_global (tol : ℝ) (objs : List (EndsIn ℝ)) (hE : EquivOn tol (fun p => p ∈ endPts objs)) :
    ∀ d ∈ recordsFrom 0 objs (matchAll objs tol), ∀ d' ∈ recordsFrom 0 objs (matchAll objs tol),
      d.rep = d'.rep ↔ cl tol d.pt d'.pt := by
  obtain ⟨_, h⟩ := matchAll_go_inv hE objs 0 [] [] ⟨by simp, by simp, by simp, by simp⟩ (by simp) (fun p hp => hp)
  exact h.iff

theorem norm_nonneg' (v : P) : 0 ≤ V3.norm v := Vec.norm_nonneg v

/-- **a separated set of end points** (every two ends within `tol` of each other or more than `2·tol` apart; `tol ≥ 0`)
makes "within the tolerance" an equivalence relation -/
theorem separated_equiv (tol : ℝ) (h0 : 0 ≤ tol) (S : P → Prop)
    (hsep : ∀ a b, S a → S b → V3.norm (a - b) ≤ tol ∨ 2 * tol < V3.norm (a - b)) : EquivOn tol S := by
  have hcl : ∀ a b : P, cl tol a b ↔ V3.norm (a - b) ≤ tol := by
    refine fun a b => ⟨?_, Or.inr⟩
    rintro (h | h)
    · rw [(veq_iff b a).mp h, Vec.norm_sub_self]; exact h0
    · exact h
  refine ⟨fun a _ => Or.inl ((veq_iff a a).mpr rfl), ?_, ?_⟩
  · intro a b _ _ h; rw [hcl] at h ⊢; rw [Vec.norm_sub_comm]; exact h
  · intro a b c ha _ hc h1 h2
    rw [hcl] at h1 h2 ⊢
    rcases hsep a c ha hc with h | h
    · exact h
    · linarith [Vec.norm_sub_le a b c]

/-- the global joining rule for separated structures -/
theorem C12_join_separated (tol : ℝ) (h0 : 0 ≤ tol) (objs : List (EndsIn ℝ))
    (hsep : ∀ a b, a ∈ endPts objs → b ∈ endPts objs → V3.norm (a - b) ≤ tol ∨ 2 * tol < V3.norm (a - b)) :
    ∀ d ∈ recordsFrom 0 objs (matchAll objs tol), ∀ d' ∈ recordsFrom 0 objs (matchAll objs tol),
      d.rep = d'.rep ↔ (d'.pt = d.pt ∨ V3.norm (d.pt - d'.pt) ≤ tol) := by
  intro d hd d' hd'
  rw [C12_join_global tol objs (separated_equiv tol h0 _ hsep) d hd d' hd', cl, veq_iff]

/-! two collinear wires sharing an end point form a separated structure for `tol = 1/1000` -/

theorem norm_z (a b : V3 ℝ) (hx : a.x = b.x) (hy : a.y = b.y) : V3.norm (a - b) = |a.z - b.z| := by
  simp [Vec.norm_def, hx, hy, Real.sqrt_mul_self_eq_abs]

example : ∀ a b : V3 ℝ,
    a ∈ endPts [⟨2, ⟨0, 0, 0⟩, ⟨0, 0, 1⟩, false, false⟩, ⟨2, ⟨0, 0, 1⟩, ⟨0, 0, 2⟩, false, false⟩] →
    b ∈ endPts [⟨2, ⟨0, 0, 0⟩, ⟨0, 0, 1⟩, false, false⟩, ⟨2, ⟨0, 0, 1⟩, ⟨0, 0, 2⟩, false, false⟩] →
    V3.norm (a - b) ≤ (1 / 1000 : ℝ) ∨ 2 * (1 / 1000 : ℝ) < V3.norm (a - b) := by
  intro a b ha hb
  simp only [endPts, Bool.false_eq_true, if_false, List.cons_append, List.nil_append, List.mem_cons,
    List.mem_nil_iff, or_false] at ha hb
  rcases ha with rfl | rfl | rfl | rfl <;> rcases hb with rfl | rfl | rfl | rfl <;>
    rw [norm_z] <;> norm_num

end

end Pmn.Props.C12b
