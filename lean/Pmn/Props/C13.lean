/-
C13 — segmentation tiles each object; arcs, helices and transformations as documented.

Over ℝ, for the model functions of `Pmn.Model.Geom`.  Tapers: count, chaining, end points and the limits the one-sided
loop checks are theorems here; positive lengths and growth ≤ 2.1 are in `Pmn.Props.C13b` (one-sided) and
`Pmn.Props.C13c` (two-sided).  The limits of the two-sided taper, whose loop checks none, have no theorem;
harness/c13.py evaluates every clause on every generated taper.
-/
import Pmn.Model.Const
import Pmn.Proofs.Vec
import Pmn.Proofs.InsertSort
import Mathlib.Tactic.Ring
import Mathlib.Tactic.FieldSimp
import Mathlib.Tactic.LinearCombination
import Mathlib.Analysis.SpecialFunctions.Sqrt

namespace Pmn.Props.C13
open Pmn.Geom

/-- segments produced by `chain` join end to end, start at `s` and end at the last point -/
def Chained {K : Type} : V3 K → List (V3 K × V3 K) → Prop
  | _, [] => True
  | s, (a, b) :: r => a = s ∧ Chained b r

theorem chain_chained {K : Type} (s : V3 K) (es : List (V3 K)) : Chained s (chain s es) := by
  induction es generalizing s with
  | nil => trivial
  | cons e r ih => exact ⟨rfl, ih e⟩

theorem chain_length {K : Type} (s : V3 K) (es : List (V3 K)) : (chain s es).length = es.length := by
  induction es generalizing s with
  | nil => rfl
  | cons e r ih => simp [chain, ih]

/-- **equal segmentation**: exactly `n` segments, chained from `p1` -/
theorem C13_equal_count (p1 p2 : V3 ℝ) (n : Nat) :
    (equalSegments p1 p2 n).length = n ∧ Chained p1 (equalSegments p1 p2 n) := by
  refine ⟨?_, chain_chained _ _⟩
  simp [equalSegments, chain_length, equalEnds]

theorem norm_sq (v : V3 ℝ) : V3.norm v * V3.norm v = V3.normSq v := Vec.norm_mul_self v

/-- end point `i` of equal segmentation is `p1 + (i+1)/n · (p2 − p1)` -/
theorem C13_equal_point (p1 p2 : V3 ℝ) (n i : Nat) (hi : i < n) (hne : V3.norm (p2 - p1) ≠ 0) :
    (equalEnds p1 p2 n)[i]? = some
      ⟨p1.x + ((i : ℝ) + 1) / n * (p2.x - p1.x), p1.y + ((i : ℝ) + 1) / n * (p2.y - p1.y),
       p1.z + ((i : ℝ) + 1) / n * (p2.z - p1.z)⟩ := by
  have hn : (n : ℝ) ≠ 0 := Nat.cast_ne_zero.mpr (by omega)
  have key : ∀ d : ℝ, ((i + 1 : Nat) : ℝ) * (d / V3.norm (p2 - p1)) * (V3.norm (p2 - p1) / n) = ((i : ℝ) + 1) / n * d := by
    intro d; push_cast; field_simp
  simp only [equalEnds, List.getElem?_map, List.getElem?_range hi, Option.map_some, key]
  rfl

/-- … so the last segment ends exactly at `p2` -/
theorem C13_equal_last (p1 p2 : V3 ℝ) (n : Nat) (hn : 0 < n) (hne : V3.norm (p2 - p1) ≠ 0) :
    (equalEnds p1 p2 n)[n - 1]? = some p2 := by
  rw [C13_equal_point p1 p2 n (n - 1) (by omega) hne]
  have : ((n - 1 : Nat) : ℝ) + 1 = n := by exact_mod_cast Nat.sub_add_cancel hn
  simp only [this, div_self (Nat.cast_ne_zero.mpr hn.ne' : (n : ℝ) ≠ 0), one_mul, add_sub_cancel]

/-- every arc point lies in the X–Z plane on the circle of the given radius -/
theorem C13_arc_on_circle (n : Nat) (R a1 a2 : ℝ) : ∀ p ∈ arcEnds n R a1 a2,
    p.x ^ 2 + p.z ^ 2 = R ^ 2 ∧ p.y = 0 := by
  intro p hp
  have key : ∀ a : ℝ, (R * Real.cos a) ^ 2 + (R * Real.sin a) ^ 2 = R ^ 2 ∧ ((0 : Nat) : ℝ) = 0 := fun a =>
    ⟨by linear_combination R ^ 2 * Real.sin_sq_add_cos_sq a, Nat.cast_zero⟩
  simp only [arcEnds, List.mem_append, List.mem_map, List.mem_range, List.mem_singleton] at hp
  rcases hp with ⟨i, _, rfl⟩ | rfl
  · exact key _
  · exact key _

/-- arc point `i` sits at the angle `ang1 + i·(ang2 − ang1)/n` (degrees → radians), uniform steps,
measured from +X towards +Z; there are `n + 1` points -/
theorem C13_arc_uniform (n : Nat) (R a1 a2 : ℝ) (i : Nat) (hi : i < n) :
    (arcEnds n R a1 a2).length = n + 1 ∧
    (arcEnds n R a1 a2)[i]? = some
      ⟨R * Real.cos (a1 / 180 * Real.pi + (a2 / 180 * Real.pi - a1 / 180 * Real.pi) / n * i), 0,
       R * Real.sin (a1 / 180 * Real.pi + (a2 / 180 * Real.pi - a1 / 180 * Real.pi) / n * i)⟩ := by
  constructor
  · simp [arcEnds]
  · simp only [arcEnds]
    rw [List.getElem?_append_left (by simp [hi])]
    simp [List.getElem?_map, List.getElem?_range hi, HasTrig.cos, HasTrig.sin, HasTrig.pi]

/-- every helix point lies on the ellipse with the (interpolated) semi-axes at its height -/
theorem C13_helix_ellipse (fmod : ℝ → ℝ → ℝ) (absK : ℝ → ℝ) (s : ℝ) (neg : Bool)
    (length turnlen xm ym z : ℝ) (hx : xm ≠ 0) (hy : ym ≠ 0) :
    let p := helixPoint fmod absK s neg length turnlen xm ym z
    (p.x / xm) ^ 2 + (p.y / ym) ^ 2 = 1 ∧ p.z = z := by
  intro p
  cases neg
  · refine ⟨?_, rfl⟩
    simp only [p, helixPoint, Bool.false_eq_true, if_false, HasTrig.cos, HasTrig.sin]
    rw [mul_div_cancel_left₀ _ hx, mul_div_cancel_left₀ _ hy]
    linear_combination Real.sin_sq_add_cos_sq _
  · refine ⟨?_, rfl⟩
    simp only [p, helixPoint, if_true, HasTrig.cos, HasTrig.sin]
    rw [neg_mul, neg_div, mul_div_cancel_left₀ _ hx, mul_div_cancel_left₀ _ hy]
    linear_combination Real.sin_sq_add_cos_sq _

theorem mulVec_mul (a b : M3 ℝ) (v : V3 ℝ) : (M3.mul a b).mulVec v = a.mulVec (b.mulVec v) := by
  simp only [M3.mul, M3.mulVec, V3.dot, M3.col0, M3.col1, M3.col2]
  congr 1 <;> ring

/-- a matrix preserves dot products -/
def Orthogonal (m : M3 ℝ) : Prop := ∀ u v : V3 ℝ, V3.dot (m.mulVec u) (m.mulVec v) = V3.dot u v

theorem orth_one : Orthogonal (M3.one : M3 ℝ) := by
  intro u v; simp [M3.one, M3.mulVec, V3.dot]

theorem orth_mul (a b : M3 ℝ) (ha : Orthogonal a) (hb : Orthogonal b) : Orthogonal (M3.mul a b) := by
  intro u v; rw [mulVec_mul, mulVec_mul, ha, hb]

theorem orth_rotX (a : ℝ) : Orthogonal (rotX a) := by
  intro u v
  simp only [rotX, M3.mulVec, V3.dot, HasTrig.cos, HasTrig.sin]
  push_cast
  linear_combination (u.y * v.y + u.z * v.z) * Real.sin_sq_add_cos_sq a

theorem orth_rotY (a : ℝ) : Orthogonal (rotY a) := by
  intro u v
  simp only [rotY, M3.mulVec, V3.dot, HasTrig.cos, HasTrig.sin]
  push_cast
  linear_combination (u.x * v.x + u.z * v.z) * Real.sin_sq_add_cos_sq a

theorem orth_rotZ (a : ℝ) : Orthogonal (rotZ a) := by
  intro u v
  simp only [rotZ, M3.mulVec, V3.dot, HasTrig.cos, HasTrig.sin]
  push_cast
  linear_combination (u.x * v.x + u.y * v.y) * Real.sin_sq_add_cos_sq a

/-- **rotations preserve every length and angle**: the rotation matrix of `--geo-rotate` (any three
angles, with the identity shortcut for zero angles) preserves all dot products -/
theorem C13_rot_orthogonal (isZero : ℝ → Bool) (rx ry rz : ℝ) :
    Orthogonal (rotMatrix isZero rx ry rz) := by
  have hite : ∀ (c : Prop) [Decidable c] (m : M3 ℝ), Orthogonal m → Orthogonal (if c then M3.one else m) := by
    intro c _ m hm; split
    · exact orth_one
    · exact hm
  exact orth_mul _ _ (orth_mul _ _ (hite _ _ (orth_rotZ _)) (hite _ _ (orth_rotY _))) (hite _ _ (orth_rotX _))

theorem mulVec_sub (m : M3 ℝ) (a b : V3 ℝ) : m.mulVec a - m.mulVec b = m.mulVec (a - b) := by
  apply Vec.ext <;> simp only [M3.mulVec, V3.dot, Vec.sub_x, Vec.sub_y, Vec.sub_z] <;> ring

/-- in particular the length of every segment is unchanged -/
theorem C13_rot_length (isZero : ℝ → Bool) (rx ry rz : ℝ) (a b : V3 ℝ) :
    V3.normSq ((rotMatrix isZero rx ry rz).mulVec a - (rotMatrix isZero rx ry rz).mulVec b)
      = V3.normSq (a - b) := by
  rw [mulVec_sub]
  exact C13_rot_orthogonal isZero rx ry rz (a - b) (a - b)

/-- scaling by `s` multiplies every length by `s` (squared lengths by `s²`), the radius included
(`Geobj._r * factor`), and is applied after all rotations and translations -/
theorem C13_scale (s : ℝ) (a b : V3 ℝ) :
    V3.normSq ((⟨s * a.x, s * a.y, s * a.z⟩ : V3 ℝ) - ⟨s * b.x, s * b.y, s * b.z⟩)
      = s ^ 2 * V3.normSq (a - b) := by
  show V3.normSq (V3.sub _ _) = s ^ 2 * V3.normSq (V3.sub a b)
  simp only [V3.normSq, V3.dot, V3.sub]; ring

theorem insertT_eq (t : Transform ℝ) (l : List (Transform ℝ)) : insertT t l = InsertSort.ins (·.key) t l := by
  induction l with
  | nil => rfl
  | cons u r ih => simp only [insertT, InsertSort.ins, ih]

theorem orderTransforms_eq (rots transl : List (Transform ℝ)) :
    orderTransforms rots transl = InsertSort.insAll (·.key) (rots ++ transl) [] := by
  simp only [orderTransforms, InsertSort.insAll, insertT_eq]

/-- **transformations act in sort-key order**: the application order is sorted by key and contains
every requested transformation (as many entries as options) -/
theorem C13_order (rots transl : List (Transform ℝ)) :
    (orderTransforms rots transl).Pairwise (fun a b => a.key ≤ b.key) ∧
    (orderTransforms rots transl).length = rots.length + transl.length := by
  rw [orderTransforms_eq]
  exact ⟨InsertSort.insAll_sorted _ _ List.Pairwise.nil,
    by simpa using (InsertSort.insAll_perm (·.key) (rots ++ transl) []).length_eq⟩

theorem applyT_dist (isZero : ℝ → Bool) (t : Transform ℝ) (tg : Nat) (a b : V3 ℝ) :
    V3.normSq (applyT isZero t tg a - applyT isZero t tg b) = V3.normSq (a - b) := by
  unfold applyT
  split
  · cases t.kind with
    | rotate => exact C13_rot_length isZero _ _ _ a b
    | translate =>
      show V3.normSq (V3.sub (V3.add a t.vec) (V3.add b t.vec)) = V3.normSq (V3.sub a b)
      simp only [V3.normSq, V3.dot, V3.sub, V3.add]; ring
  · rfl

theorem foldT_dist (isZero : ℝ → Bool) (ts : List (Transform ℝ)) (tg : Nat) (a b : V3 ℝ) :
    V3.normSq (ts.foldl (fun q t => applyT isZero t tg q) a - ts.foldl (fun q t => applyT isZero t tg q) b)
      = V3.normSq (a - b) := by
  induction ts generalizing a b with
  | nil => rfl
  | cons t r ih => simp only [List.foldl_cons]; rw [ih, applyT_dist]

/-- the fold on the right is `scaleOf` with its start value 1 generalised to `c`, for the induction -/
theorem foldS_dist (scales : List (Scale ℝ)) (tg : Nat) {a b : V3 ℝ} {c d : ℝ} (h : V3.normSq (a - b) = c ^ 2 * d) :
    V3.normSq (scales.foldl (fun q s => applyS s tg q) a - scales.foldl (fun q s => applyS s tg q) b)
      = scales.foldl (fun acc s => if actsOn s.tag tg then acc * s.factor else acc) c ^ 2 * d := by
  induction scales generalizing a b c with
  | nil => exact h
  | cons s r ih =>
    apply ih
    simp only [applyS]
    split
    · rw [mul_pow, mul_right_comm, ← h]
      simp only [Vec.normSq_def, Vec.sub_x, Vec.sub_y, Vec.sub_z]; ring
    · exact h

/-- **the geometry pipeline keeps the shape of every object**: whatever rotations, translations and scale options are
given (with or without tags, any keys), the distance between two points of the same object after the pipeline is the
original distance times the product of the scale factors that act on that object — the factor `Geobj.scale` applies to
the wire radius.  Rotations and translations therefore act in unscaled coordinates: `pipeline` applies them first, in
key order. -/
theorem C13_pipeline_shape (isZero : ℝ → Bool) (rots transl : List (Transform ℝ))
    (scales : List (Scale ℝ)) (tg : Nat) (a b : V3 ℝ) :
    V3.normSq (pipeline isZero rots transl scales tg a - pipeline isZero rots transl scales tg b)
      = scaleOf scales tg ^ 2 * V3.normSq (a - b) := by
  unfold pipeline scaleOf
  exact foldS_dist scales tg (by rw [foldT_dist, Nat.cast_one, one_pow, one_mul])

/-- a translation by `v` keyed before a global scale `s` moves a point by `s·v`, not by `v`:
scaling happens after translation, so translation parameters are in unscaled coordinates -/
theorem C13_translate_then_scale (isZero : ℝ → Bool) (k s : ℝ) (v p : V3 ℝ) (tg : Nat) :
    pipeline isZero [] [⟨k, .translate, v, none⟩] [⟨s, none⟩] tg p
      = ⟨(p.x + v.x) * s, (p.y + v.y) * s, (p.z + v.z) * s⟩ := by
  simp only [pipeline, orderTransforms, insertT, applyT, applyS, actsOn, List.nil_append, List.foldl_cons,
    List.foldl_nil, if_true]
  rfl

theorem taperPre_ok {l : ℝ} {n : Nat} {r minT : ℝ} {maxT : Option ℝ} {c25 lo : ℝ}
    (h : taperPre l n r minT maxT c25 = .ok lo) : 1 < n ∧ lo = maxK (c25 * r) minT := by
  unfold taperPre at h
  simp only at h
  -- the error branches close by themselves
  split_ifs at h
  refine ⟨by omega, ?_⟩
  split at h
  · split_ifs at h; cases h; rfl
  · cases h; rfl

/-- `mt = max_t or l`: the upper limit the loop checks against -/
def taperHi (isZero : ℝ → Bool) (maxT : Option ℝ) (l : ℝ) : ℝ :=
  match maxT with
  | some mx => if isZero mx then l else mx
  | none => l

/-- an accepted `taper1` (end 0) is its loop run with these arguments -/
theorem taper1_ok {p1 p2 : V3 ℝ} {n : Nat} {r minT : ℝ} {maxT : Option ℝ} {c25 : ℝ} {isZero : ℝ → Bool}
    {segs : List (V3 ℝ × V3 ℝ)} (h : taper1 p1 p2 n r minT maxT false c25 isZero = .ok segs) :
    ∃ minl eps, 1 < n ∧ taper1Minl (V3.norm (p2 - p1)) n (maxK (c25 * r) minT) maxT = .ok (minl, eps) ∧
      taper1Loop p1 p2 (p2 - p1) (smulV (minl / V3.norm (p2 - p1)) (p2 - p1)) eps (maxK (c25 * r) minT)
        (taperHi isZero maxT (V3.norm (p2 - p1))) n n 0 false p1 (p2 - p1) = .ok segs := by
  simp only [taper1, Bool.false_eq_true, if_false, taper1Fwd] at h
  split at h
  · cases h
  · rename_i lo hpre
    obtain ⟨hn, rfl⟩ := taperPre_ok hpre
    split at h
    · cases h
    · rename_i minl eps hm
      cases maxT <;> exact ⟨minl, eps, hn, hm, h⟩

/-- an accepted `taper2` is its loop run with these arguments -/
theorem taper2_ok {p1 p2 : V3 ℝ} {n : Nat} {r minT : ℝ} {maxT : Option ℝ} {c25 : ℝ}
    {segs : List (V3 ℝ × V3 ℝ)} (h : taper2 p1 p2 n r minT maxT c25 = .ok segs) :
    ∃ minl eps, 1 < n ∧ taper2Minl (V3.norm (p2 - p1)) n (maxK (c25 * r) minT) maxT = .ok (minl, eps) ∧
      segs = taper2Loop p1 p2 (p2 - p1) (smulV (minl / V3.norm (p2 - p1)) (p2 - p1)) eps n n 0 0 0 p1 (p2 - p1) := by
  simp only [taper2] at h
  split at h
  · cases h
  · rename_i lo hpre
    obtain ⟨hn, rfl⟩ := taperPre_ok hpre
    split at h
    · cases h
    · rename_i minl eps hm
      cases h
      exact ⟨minl, eps, hn, hm, rfl⟩

/-- converse of `C13_taper_mirror` -/
theorem taper1_end2_ok {p1 p2 : V3 ℝ} {n : Nat} {r minT : ℝ} {maxT : Option ℝ} {c25 : ℝ} {isZero : ℝ → Bool}
    {segs : List (V3 ℝ × V3 ℝ)} (h : taper1 p1 p2 n r minT maxT true c25 isZero = .ok segs) :
    ∃ segs0, taper1 p2 p1 n r minT maxT false c25 isZero = .ok segs0 ∧ segs = segs0.reverse.map fun s => (s.2, s.1) := by
  simp only [taper1, if_true, Bool.false_eq_true, if_false] at h ⊢
  split at h
  · cases h; exact ⟨_, ‹_›, rfl⟩
  · cases h

/-- `fuel` segments chained from `p`, the last one ending at `p2` -/
def TilesTo (fuel : Nat) (p p2 : V3 ℝ) (segs : List (V3 ℝ × V3 ℝ)) : Prop :=
  segs.length = fuel ∧ Chained p segs ∧ (0 < fuel → segs.getLast?.map (·.2) = some p2)

theorem tilesTo_nil (p p2 : V3 ℝ) : TilesTo 0 p p2 [] := ⟨rfl, trivial, nofun⟩

theorem tilesTo_cons {f : Nat} {p q p2 : V3 ℝ} {r : List (V3 ℝ × V3 ℝ)} (hq : f = 0 → q = p2)
    (h : TilesTo f q p2 r) : TilesTo (f + 1) p p2 ((p, q) :: r) := by
  obtain ⟨h1, h2, h3⟩ := h
  refine ⟨by rw [List.length_cons, h1], ⟨rfl, h2⟩, fun _ => ?_⟩
  cases f with
  | zero => rw [List.length_eq_zero_iff.mp h1, hq rfl]; rfl
  | succ f =>
    rw [List.getLast?_cons_of_ne_nil (List.ne_nil_of_length_pos (by omega))]
    exact h3 (Nat.succ_pos f)

theorem taper2Loop_spec (p1 p2 lv minc : V3 ℝ) (eps : ℝ) (n : Nat) :
    ∀ (fuel i state bound : Nat) (p inc1 : V3 ℝ), i + fuel = n →
      TilesTo fuel p p2 (taper2Loop p1 p2 lv minc eps n fuel i state bound p inc1) := by
  intro fuel
  induction fuel with
  | zero => intro i state bound p inc1 _; exact tilesTo_nil p p2
  | succ f ih =>
    intro i state bound p inc1 hi
    rw [taper2Loop]
    simp only
    by_cases hlast : i = n - 1
    · obtain rfl : f = 0 := by omega
      rw [if_pos hlast]
      exact tilesTo_cons (fun _ => rfl) (tilesTo_nil p2 p2)
    · rw [if_neg hlast]
      exact tilesTo_cons (by omega) (ih _ _ _ _ _ (by omega))

/-- **two-sided taper tiles the wire**: whenever `taper2` accepts, it yields exactly `n` segments
that chain from `p1` and end at `p2` -/
theorem C13_taper2_tiles (p1 p2 : V3 ℝ) (n : Nat) (r minT : ℝ) (maxT : Option ℝ) (c25 : ℝ)
    (segs : List (V3 ℝ × V3 ℝ)) (h : taper2 p1 p2 n r minT maxT c25 = .ok segs) :
    segs.length = n ∧ Chained p1 segs ∧ segs.getLast?.map (·.2) = some p2 := by
  obtain ⟨minl, eps, hn, -, rfl⟩ := taper2_ok h
  obtain ⟨h1, h2, h3⟩ := taper2Loop_spec p1 p2 _ _ eps n n 0 0 0 p1 _ (by omega)
  exact ⟨h1, h2, h3 (by omega)⟩

theorem consOk_ok {E α : Type} {c : Prop} [Decidable c] {rec : Except E (List α)} {x : α} {e1 : E}
    {segs : List α} (h : (if c then consOk x rec else Except.error e1) = Except.ok segs) :
    c ∧ ∃ r, rec = .ok r ∧ segs = x :: r := by
  split at h
  · rename_i hc
    cases rec with
    | ok r => cases h; exact ⟨hc, r, rfl, rfl⟩
    | error e => cases h
  · cases h

/-- the test `incdif < 0` of both loops: `a` the even share, `b` the next doubled length -/
theorem switch_iff (a b eps : ℝ) : a - b - eps < 0 ↔ a < b + eps := by
  rw [sub_neg, sub_lt_iff_lt_add']

/-- what an accepted step did; the last one (`i = n - 1`, `f = 0`) has the same form, with `r = []` -/
theorem taper1Loop_ok_step {p1 p2 lv minc : V3 ℝ} {eps minT mt : ℝ} {n f i : Nat} {steady : Bool}
    {p inc1Prev : V3 ℝ} {segs : List (V3 ℝ × V3 ℝ)} (hi : i + (f + 1) = n)
    (h : taper1Loop p1 p2 lv minc eps minT mt n (f + 1) i steady p inc1Prev = .ok segs) :
    ∃ inc1 steady' q r,
      inc1 = (if steady then inc1Prev else divV (lv - (p - p1)) ((n - i : Nat) : ℝ)) ∧
      steady' = (steady || decide (V3.norm inc1 < V3.norm (smulV (2 ^ i) minc) + eps)) ∧
      q = (if i = n - 1 then p2 else p + if steady' then inc1 else smulV (2 ^ i) minc) ∧
      (minT - eps ≤ V3.norm (q - p) ∧ V3.norm (q - p) ≤ mt + eps) ∧
      segs = (p, q) :: r ∧ taper1Loop p1 p2 lv minc eps minT mt n f (i + 1) steady' q inc1 = .ok r := by
  unfold taper1Loop at h
  simp only [Nat.cast_pow, Nat.cast_ofNat, Nat.cast_zero, switch_iff] at h
  by_cases hlast : i = n - 1
  · obtain rfl : f = 0 := by omega
    simp only [if_pos hlast] at h ⊢
    split at h
    · cases h; exact ⟨_, _, _, [], rfl, rfl, rfl, ‹_›, rfl, rfl⟩
    · cases h
  · simp only [if_neg hlast] at h ⊢
    obtain ⟨hc, r, hr, rfl⟩ := consOk_ok h
    exact ⟨_, _, _, r, rfl, rfl, rfl, hc, rfl, hr⟩

/-- where the test fires, the doubling state goes on as the steady one -/
theorem taper1Loop_switch {p1 p2 lv minc : V3 ℝ} {eps minT mt : ℝ} {n f i : Nat} {p inc1Prev inc1 : V3 ℝ}
    (hinc1 : inc1 = divV (lv - (p - p1)) ((n - i : Nat) : ℝ))
    (hsw : V3.norm inc1 < V3.norm (smulV (2 ^ i) minc) + eps) :
    taper1Loop p1 p2 lv minc eps minT mt n (f + 1) i false p inc1Prev
      = taper1Loop p1 p2 lv minc eps minT mt n (f + 1) i true p inc1 := by
  rw [taper1Loop, taper1Loop]
  simp only [Nat.cast_pow, Nat.cast_ofNat, Nat.cast_zero, switch_iff, ← hinc1, hsw, if_true, Bool.false_eq_true,
    if_false, Bool.false_or, Bool.true_or, decide_true]

theorem taper1Loop_spec {p1 p2 lv minc : V3 ℝ} {eps minT mt : ℝ} {n : Nat} :
    ∀ (fuel i : Nat) (steady : Bool) (p inc1 : V3 ℝ) (segs : List (V3 ℝ × V3 ℝ)), i + fuel = n →
      taper1Loop p1 p2 lv minc eps minT mt n fuel i steady p inc1 = .ok segs →
      TilesTo fuel p p2 segs ∧ ∀ s ∈ segs, minT - eps ≤ V3.norm (s.2 - s.1) ∧ V3.norm (s.2 - s.1) ≤ mt + eps := by
  intro fuel
  induction fuel with
  | zero => intro i steady p inc1 segs _ hok; cases hok; exact ⟨tilesTo_nil p p2, nofun⟩
  | succ f ih =>
    intro i steady p inc1 segs hi hok
    obtain ⟨_, _, q, r, -, -, hq, hb, rfl, hr⟩ := taper1Loop_ok_step hi hok
    obtain ⟨ht, hbs⟩ := ih _ _ _ _ r (by omega) hr
    exact ⟨tilesTo_cons (fun hf => by rw [hq, if_pos (by omega)]) ht, List.forall_mem_cons.mpr ⟨hb, hbs⟩⟩

/-- **one-sided taper tiles the wire** (tapered end first): exactly `n` segments chaining from `p1`
to `p2` whenever the taper is accepted -/
theorem C13_taper1_tiles (p1 p2 : V3 ℝ) (n : Nat) (r minT : ℝ) (maxT : Option ℝ) (c25 : ℝ)
    (isZero : ℝ → Bool) (segs : List (V3 ℝ × V3 ℝ))
    (h : taper1 p1 p2 n r minT maxT false c25 isZero = .ok segs) :
    segs.length = n ∧ Chained p1 segs ∧ segs.getLast?.map (·.2) = some p2 := by
  obtain ⟨minl, eps, hn, -, hloop⟩ := taper1_ok h
  obtain ⟨⟨h1, h2, h3⟩, -⟩ := taper1Loop_spec n 0 false p1 _ segs (by omega) hloop
  exact ⟨h1, h2, h3 (by omega)⟩

theorem le_maxK (a b : ℝ) : a ≤ maxK a b := by
  unfold maxK; split
  · exact le_of_lt ‹_›
  · exact le_refl a

theorem maxK_eq_or (a b : ℝ) : maxK a b = a ∨ maxK a b = b := by
  unfold maxK; split
  · exact Or.inr rfl
  · exact Or.inl rfl

/-- `eps` is a tenth of `m0 = max (l / (2ⁿ − 1), min_t)`; `minl` is `m0` unless the search for a maximum found more -/
theorem taper1Minl_ok {l : ℝ} {n : Nat} {minT : ℝ} {maxT : Option ℝ} {minl eps : ℝ}
    (h : taper1Minl l n minT maxT = .ok (minl, eps)) :
    eps = maxK (l / ((2 ^ n - 1 : Nat) : ℝ)) minT / ((10 : Nat) : ℝ) ∧
      maxK (l / ((2 ^ n - 1 : Nat) : ℝ)) minT ≤ minl := by
  unfold taper1Minl at h
  unfold maxK
  simp only at h
  generalize (if l / ((2 ^ n - 1 : Nat) : ℝ) < minT then minT else l / ((2 ^ n - 1 : Nat) : ℝ)) = m0 at h ⊢
  split at h
  · cases h; exact ⟨rfl, le_refl _⟩
  · split at h
    · split at h
      · cases h
      · split at h
        · cases h
        · cases h; exact ⟨rfl, le_maxK _ _⟩
    · cases h; exact ⟨rfl, le_refl _⟩

/-- **taper limits** (tapered end first): every segment of an accepted one-sided taper is at least
`max (2.5 r, min_t) − eps` and at most `(max_t or the wire length) + eps` long, where `eps` is a tenth of the first
segment aimed at (`max (l / (2ⁿ − 1), max (2.5 r, min_t))`) -/
theorem C13_taper1_bounds (p1 p2 : V3 ℝ) (n : Nat) (r minT : ℝ) (maxT : Option ℝ) (c25 : ℝ)
    (isZero : ℝ → Bool) (segs : List (V3 ℝ × V3 ℝ))
    (h : taper1 p1 p2 n r minT maxT false c25 isZero = .ok segs) :
    let l := V3.norm (p2 - p1)
    let lo := maxK (c25 * r) minT
    let hi := taperHi isZero maxT l
    ∃ eps : ℝ, (eps = l / (((2 ^ n - 1 : Nat) : ℝ)) / ((10 : Nat) : ℝ) ∨ eps = lo / ((10 : Nat) : ℝ)) ∧
      ∀ s ∈ segs, lo - eps ≤ V3.norm (s.2 - s.1) ∧ V3.norm (s.2 - s.1) ≤ hi + eps := by
  intro l lo hi
  obtain ⟨minl, eps, hn, hm, hloop⟩ := taper1_ok h
  refine ⟨eps, ?_, (taper1Loop_spec n 0 false p1 _ segs (by omega) hloop).2⟩
  rw [(taper1Minl_ok hm).1]
  exact (maxK_eq_or _ _).imp (congrArg (· / _)) (congrArg (· / _))

/-- the same limits when the *second* end is tapered (`end = 1`): the segments are those of the taper run from `p2` to
`p1`, reversed -/
theorem C13_taper1_bounds_end2 (p1 p2 : V3 ℝ) (n : Nat) (r minT : ℝ) (maxT : Option ℝ) (c25 : ℝ)
    (isZero : ℝ → Bool) (segs : List (V3 ℝ × V3 ℝ))
    (h : taper1 p1 p2 n r minT maxT true c25 isZero = .ok segs) :
    let l := V3.norm (p1 - p2)
    let lo := maxK (c25 * r) minT
    let hi := taperHi isZero maxT l
    ∃ eps : ℝ, (eps = l / (((2 ^ n - 1 : Nat) : ℝ)) / ((10 : Nat) : ℝ) ∨ eps = lo / ((10 : Nat) : ℝ)) ∧
      ∀ s ∈ segs, lo - eps ≤ V3.norm (s.1 - s.2) ∧ V3.norm (s.1 - s.2) ≤ hi + eps := by
  intro l lo hi
  obtain ⟨segs0, hf, rfl⟩ := taper1_end2_ok h
  obtain ⟨eps, he, hb⟩ := C13_taper1_bounds p2 p1 n r minT maxT c25 isZero segs0 hf
  exact ⟨eps, he, List.forall_mem_map.mpr fun t ht => hb t (List.mem_reverse.mp ht)⟩

/-- **mirroring**: tapering the other end is tapering from `p2` to `p1`, reversed, with the end
points of every segment exchanged -/
theorem C13_taper_mirror (p1 p2 : V3 ℝ) (n : Nat) (r minT : ℝ) (maxT : Option ℝ) (c25 : ℝ)
    (isZero : ℝ → Bool) (segs : List (V3 ℝ × V3 ℝ))
    (h : taper1 p2 p1 n r minT maxT false c25 isZero = .ok segs) :
    taper1 p1 p2 n r minT maxT true c25 isZero = .ok (segs.reverse.map fun s => (s.2, s.1)) := by
  unfold taper1 at h ⊢
  simp only [Bool.false_eq_true, if_false] at h
  simp only [if_true, h]

/-- the taper radius factor in taper.py: segments are kept at or above 2.5 radii -/
theorem C13_taper_radius_factor : Pmn.Const.taperRad1 = ⟨5, 2⟩ := by decide

end Pmn.Props.C13
