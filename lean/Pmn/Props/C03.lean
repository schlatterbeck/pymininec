/-
C03 — image theory: ideal ground = free space + mirrored antenna.

Fill model: the image pass of an entry over ground *is* the direct entry for the image pulse — the source pulse mirrored at
the ground plane and taken in image sense (horizontal components of the current reversed, vertical kept) — for every
potential functional that treats the mirrored path like the path (`ImgSym`); the implemented `psi` does, whatever the
quadrature table.
Linear algebra over ℂ: with `S` the symmetric extension of the currents above ground to antenna plus image and `W` = 2 for
elevated, 1 for grounded pulses (measured on the implementation), if `Sᵀ Z_f S = diag(W) Z_g` and `Sᵀ v_f = W v_g` then the
ground currents solve the ground system exactly when their symmetric extension solves the free-space system.  That the two
equations hold for the matrices `Mininec` builds is the tie (harness/c03.py); the property itself (currents, impedances,
gains within the stated tolerances) is evaluated there.
-/
import Pmn.Proofs.FillLemmas
import Pmn.Proofs.Lin
import Mathlib.Analysis.SpecialFunctions.Log.Base
import Mathlib.Tactic.NormNum

namespace Pmn.Props.C03
open Pmn.Fill

def mirV (a : V3 ℝ) : V3 ℝ := ⟨a.x, a.y, -a.z⟩

/-- a half of the image pulse: mirrored position, direction in image sense `(−dx, −dy, dz)` -/
def imgSide (s : Side ℝ) : Side ℝ := { s with fend := mirV s.fend, dir := ⟨-s.dir.x, -s.dir.y, s.dir.z⟩ }

/-- the image pulse (number `j'` in the free-space structure): mirrored, halves exchanged so that
the current runs from the first to the second half in image sense -/
def imgPulse (p : PulseD ℝ) (j' : Nat) : PulseD ℝ :=
  { p with idx := j', pt := mirV p.pt, s0 := imgSide p.s1, s1 := imgSide p.s0 }

theorem kmul_neg_one (a : V3 ℝ) : kmul (-1) a = mirV a := by
  simp [kmul, mirV]

theorem kmul_one (a : V3 ℝ) : kmul 1 a = a := by
  simp [kmul]

theorem side_img (p : PulseD ℝ) (j' : Nat) (pos : Bool) : side (imgPulse p j') pos = imgSide (side p (!pos)) := by
  cases pos <;> rfl

theorem endseg_img (p : PulseD ℝ) (j' : Nat) (pos : Bool) (a : ℝ) :
    endseg (imgPulse p j') pos a = mirV (endseg p (!pos) a) := by
  unfold endseg
  rw [side_img]
  simp only [imgSide, imgPulse, mirV, vadd, vsmul, vsub, V3.mk.injEq, true_and]
  ring

theorem dvecs_img (p : PulseD ℝ) (j' : Nat) (pos : Bool) (a : ℝ) :
    dvecs (imgPulse p j') pos a = (mirV (dvecs p (!pos) a).2, mirV (dvecs p (!pos) a).1) := by
  unfold dvecs
  cases pos <;> simp only [endseg_img, Bool.false_eq_true, if_false, if_true, Bool.not_false, Bool.not_true] <;> rfl

theorem srcProj_img (p : PulseD ℝ) (j' : Nat) (pos : Bool) (z : V3 ℝ) :
    srcProj 1 (side (imgPulse p j') pos) z = -srcProj (-1) (side p (!pos)) z := by
  simp only [side_img, srcProj, imgSide, V3.dot]; ring

/-- a functional for which integrating along the mirrored path of the image pulse (direct pass) is
the same as the image pass along the path of the pulse -/
@[reducible] def ImgSym (Ψ : PsiFn ℝ) : Prop :=
  ∀ u v sc pos (pj : PulseD ℝ) (j' : Nat) x f,
    Ψ v u false sc pos (imgPulse pj j') x f = Ψ u v true sc (!pos) pj x f

theorem integrand_kneg (c : Ctx ℝ) (t : ℝ) (u v : V3 ℝ) (r : ℝ) (e : Bool) :
    integrand c t v u false r e = integrand c t u v true r e := by
  unfold integrand
  simp only [Bool.false_eq_true, if_false, if_true]

/-- the implemented potential integral is such a functional — exactly, for every quadrature table:
the image flag only exchanges the two end points of the path -/
theorem psi_imgSym (c : Ctx ℝ) : ImgSym (psi c) := by
  intro u v sc pos pj j' x f
  unfold psi
  rw [side_img]
  have e1 : (imgSide (side pj (!pos))).len = (side pj (!pos)).len := rfl
  have e2 : (imgSide (side pj (!pos))).r = (side pj (!pos)).r := rfl
  have e3 : (imgSide (side pj (!pos))).i6 = (side pj (!pos)).i6 := rfl
  simp only [e1, e2, e3, add_comm (V3.norm v) (V3.norm u), integrand_kneg]

/-- **image term = direct term of the image pulse**.  `hidx`, `hfar`: the image pulse is another
pulse than the observer and its segments are not the observer's own (true for every pulse of the
mirrored half of the structure). -/
theorem C03_image_term (Ψ : PsiFn ℝ) (hΨ : ImgSym Ψ) (c : Ctx ℝ) (pi pj : PulseD ℝ) (xct : Bool) (j' : Nat)
    (hidx : pi.idx ≠ j') (hfar : ∀ p1 p2, sameMid pi.idx j' p1 p2 = false) :
    entryK Ψ c (-1) true pi pj xct = entryK Ψ c 1 false pi (imgPulse pj j') xct := by
  have e : (imgPulse pj j').idx = j' := rfl
  have h : ∀ z : Cx ℝ, Cx.scale (-1) z = Cx.scale 1 (-z) := fun z => by
    apply CxC.toC_inj; simp only [to_complex]; ring
  unfold entryK
  simp only [entryK8_eq, vecpot, scapot, e, hidx, hfar, ne_eq, not_false_eq_true, Bool.false_eq_true, true_or, or_true,
    if_true, dvecs_img, kmul_one, kmul_neg_one, hΨ, srcProj_img]
  simp only [side_img]
  rw [h, ← assemble_flip_source (q' := pj.s0.sign * pj.s0.sign)]
  rfl

/-- **every entry over ideal ground is the free-space entry of the pulse plus that of its image**
(for source pulses that do not sit on the ground plane; those have no image pass) -/
theorem C03_entry (Ψ : PsiFn ℝ) (hΨ : ImgSym Ψ) (c : Ctx ℝ) (pi pj : PulseD ℝ) (xct : Bool) (j' : Nat)
    (hidx : pi.idx ≠ j') (hfar : ∀ p1 p2, sameMid pi.idx j' p1 p2 = false)
    (hg : (pj.s0.gnd || pj.s1.gnd) = false) :
    entry Ψ c true pi pj xct = entry Ψ c false pi pj xct + entry Ψ c false pi (imgPulse pj j') xct := by
  unfold entry
  simp only [hg, Bool.not_false, Bool.and_self, Bool.false_and, Bool.false_eq_true, if_false, if_true,
    Nat.cast_one]
  rw [C03_image_term Ψ hΨ c pi pj xct j' hidx hfar]

/-- non-vacuity of `hfar`: an image pulse numbered two or more beyond the observer -/
example : ∀ p1 p2, sameMid 3 9 p1 p2 = false := by decide

section Linear
variable {n m : Type} [Fintype n] [DecidableEq n] [Fintype m] [DecidableEq m]

/-- **a mirror-symmetric system has a mirror-symmetric solution** (`σ`: the mirror relabelling of antenna plus image, which
is fed in mirror sense) -/
theorem C03_symmetric (σ : Equiv.Perm n) (Z : Matrix n n ℂ) (v I : n → ℂ) (hdet : IsUnit Z.det)
    (hZ : ∀ i j, Z (σ i) (σ j) = Z i j) (hv : ∀ i, v (σ i) = v i) (hs : Z.mulVec I = v) :
    ∀ i, I (σ i) = I i := by
  have hJ : Z.mulVec (fun i => I (σ i)) = v := by
    funext i
    rw [← hv i, ← hs]
    -- re-index the sum by `σ`
    exact (Fintype.sum_congr _ _ fun j => by rw [hZ]).trans (Equiv.sum_comp σ fun k => Z (σ i) k * I k)
  exact congrFun (Pmn.Lin.mulVec_injective hdet (hJ.trans hs.symm))

/-- **reduction to the half space**: with `Sᵀ Z_f S = diag W · Z_g` and `Sᵀ v_f = W v_g`, if the
symmetric extension `S I_g` of ground currents solves the free-space system then `I_g` solves the
ground system -/
theorem C03_reduce (Zf : Matrix n n ℂ) (Zg : Matrix m m ℂ) (S : Matrix n m ℂ) (W : m → ℂ) (hW : ∀ i, W i ≠ 0)
    (hfold : S.transpose * Zf * S = Matrix.diagonal W * Zg) (vf : n → ℂ) (vg : m → ℂ)
    (hv : S.transpose.mulVec vf = fun i => W i * vg i) (Ig : m → ℂ) (hsol : Zf.mulVec (S.mulVec Ig) = vf) :
    Zg.mulVec Ig = vg := by
  have h1 : (S.transpose * Zf * S).mulVec Ig = S.transpose.mulVec vf := by
    rw [← hsol, Matrix.mulVec_mulVec, Matrix.mulVec_mulVec, Matrix.mul_assoc]
  rw [hfold, hv, ← Matrix.mulVec_mulVec] at h1
  funext i
  exact mul_left_cancel₀ (hW i) ((Matrix.mulVec_diagonal W _ i).symm.trans (congrFun h1 i))

/-- … and conversely the ground solution is the only one whose extension can solve it: two ground
current vectors with the same right-hand side coincide when `Z_g` is invertible -/
theorem C03_unique (Zg : Matrix m m ℂ) (hdet : IsUnit Zg.det) (vg I I' : m → ℂ)
    (h : Zg.mulVec I = vg) (h' : Zg.mulVec I' = vg) : I = I' :=
  Pmn.Lin.mulVec_injective hdet (h.trans h'.symm)

end Linear

/-- a source `V` on a grounded end corresponds to `2 V` in the middle of wire plus image with the
same current: it sees half the impedance -/
theorem C03_half_impedance (V I : ℂ) : V / I = (2 * V / I) / 2 := by
  ring

/-- the same field with half the input power is twice the gain -/
theorem C03_gain_ratio (k9c e2 p : ℝ) (hp : p ≠ 0) : k9c / (p / 2) * e2 = 2 * (k9c / p * e2) := by
  field_simp

/-- `10 log10 2 = 3.0103` to a thousandth of a dB -/
theorem C03_db : |10 * Real.logb 10 2 - 3.0103| < 1 / 1000 := by
  have h10 : (0 : ℝ) < Real.log 10 := Real.log_pos (by norm_num)
  -- 2^93 < 10^28 and 10^59 < 2^196
  have up : 93 * Real.log 2 < 28 * Real.log 10 := by
    have : Real.log ((2 : ℝ) ^ 93) < Real.log ((10 : ℝ) ^ 28) := Real.log_lt_log (by positivity) (by norm_num)
    simpa [Real.log_pow] using this
  have lo : 59 * Real.log 10 < 196 * Real.log 2 := by
    have : Real.log ((10 : ℝ) ^ 59) < Real.log ((2 : ℝ) ^ 196) := Real.log_lt_log (by positivity) (by norm_num)
    simpa [Real.log_pow] using this
  rw [Real.logb, abs_lt]
  constructor
  · have : (59 : ℝ) / 196 < Real.log 2 / Real.log 10 := by
      rw [div_lt_div_iff₀ (by norm_num) h10]; linarith
    linarith
  · have : Real.log 2 / Real.log 10 < (28 : ℝ) / 93 := by
      rw [div_lt_div_iff₀ h10 (by norm_num)]; linarith
    linarith

end Pmn.Props.C03
