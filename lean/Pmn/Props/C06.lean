/-
C06 — results do not depend on how the same conductor structure is described.

Linear algebra: a second description with the matrix `T Z Tᵀ` and the right-hand side `T v`, `T` invertible (a signed
permutation for reversed / reordered / split wires, a unimodular recombination of the junction pulses of a star), has the
currents `I = Tᵀ I'`, hence the same current on every half segment and the same feed impedances.
Fill model, any potential functional Ψ: the single steps such a `T` is made of.  A half given in the opposite sense (a wire
joined end 2 to end 2) leaves an entry as it is; a pulse described from the other side negates its row, and its column if Ψ
does not depend on the orientation of the integration path (`FlipSymAt`), which is shown of the implementation's Gauss rule
only in part (`C06_gauss_flip_partial`).

Not a theorem: that the pulse table `Mininec` builds for a re-described structure is related to the original one by exactly
these operations.  harness/c06.py computes `T` from the two real pulse tables, checks `Z' = T Z Tᵀ`, `rhs' = T rhs` on the
implementation (tie), and evaluates the property itself (currents, impedances, near and far fields).
-/
import Pmn.Proofs.FillLemmas
import Pmn.Proofs.Lin

namespace Pmn.Props.C06
open Pmn.Fill

section Linear
variable {n m : Type} [Fintype n] [DecidableEq n] [Fintype m]

/-- **congruence**: `Z' = T Z Tᵀ`, `v' = T v`, `Z' I' = v'`, `T` invertible ⇒ `Z (Tᵀ I') = v` -/
theorem C06_congruence (Z Z' T : Matrix n n ℂ) (v v' I' : n → ℂ) (hT : IsUnit T.det)
    (hZ : Z' = T * Z * T.transpose) (hv : v' = T.mulVec v) (hs : Z'.mulVec I' = v') :
    Z.mulVec (T.transpose.mulVec I') = v := by
  apply Pmn.Lin.mulVec_injective hT
  rw [← hv, ← hs, hZ, Matrix.mulVec_mulVec, Matrix.mulVec_mulVec, Matrix.mul_assoc]

/-- the currents of the first description are `Tᵀ` applied to those of the second -/
theorem C06_currents (Z Z' T : Matrix n n ℂ) (v v' I I' : n → ℂ) (hT : IsUnit T.det) (hZd : IsUnit Z.det)
    (hZ : Z' = T * Z * T.transpose) (hv : v' = T.mulVec v) (h : Z.mulVec I = v) (hs : Z'.mulVec I' = v') :
    I = T.transpose.mulVec I' :=
  Pmn.Lin.mulVec_injective hZd (h.trans (C06_congruence Z Z' T v v' I' hT hZ hv hs).symm)

/-- with `B`, `B'` the half-segment incidence tables of the two descriptions (`B' = B Tᵀ`, which is
how `T` is obtained), the current on every half segment is the same in both descriptions -/
theorem C06_half_currents (B B' : Matrix m n ℂ) (T : Matrix n n ℂ) (I I' : n → ℂ)
    (hB : B' = B * T.transpose) (hI : I = T.transpose.mulVec I') : B.mulVec I = B'.mulVec I' := by
  rw [hB, hI, Matrix.mulVec_mulVec]

/-- where `T` maps pulse `s` to pulse `s'` with sign `d = ±1` (row `s'` and column `s` of `T` have
the single entry `d`), voltage and current of that pulse both pick up `d`: the feed impedance `V/I`
of a source there is the same in both descriptions -/
theorem C06_feed_impedance (T : Matrix n n ℂ) (v I' : n → ℂ) (s s' : n) (d : ℂ) (hd : d * d = 1)
    (hrow : ∀ j, T s' j = if j = s then d else 0) (hcol : ∀ i, T i s = if i = s' then d else 0) :
    (T.mulVec v) s' / I' s' = v s / (T.transpose.mulVec I') s := by
  have h1 : (T.mulVec v) s' = d * v s := by
    simp [Matrix.mulVec, dotProduct, hrow]
  have h2 : (T.transpose.mulVec I') s = d * I' s' := by
    simp [Matrix.mulVec, dotProduct, hcol]
  -- `d = 1 / d`
  rw [h1, h2, ← mul_div_mul_left (v s) (d * I' s') (left_ne_zero_of_mul_eq_one hd), ← mul_assoc d d, hd, one_mul]

/-- non-vacuity: reversing a two-pulse wire (`T` = exchange with sign −1) -/
example : IsUnit (!![0, -1; -1, 0] : Matrix (Fin 2) (Fin 2) ℂ).det := by
  simp [Matrix.det_fin_two]

end Linear

def negV (a : V3 ℝ) : V3 ℝ := ⟨-a.x, -a.y, -a.z⟩

theorem cx_neg_def (a : Cx ℝ) : -a = ⟨-a.re, -a.im⟩ := rfl

def negHalf (s : Side ℝ) : Side ℝ := { s with dir := negV s.dir, sign := -s.sign, dsgn := -s.dsgn }

/-- a functional that looks at the source pulse through lengths, radii and wire constants only -/
@[reducible] def DirFree (Ψ : PsiFn ℝ) : Prop :=
  ∀ u v kneg sc pos (pj pj' : PulseD ℝ) x f,
    (side pj' pos).len = (side pj pos).len → (side pj' pos).r = (side pj pos).r →
    (side pj' pos).i6 = (side pj pos).i6 → Ψ u v kneg sc pos pj' x f = Ψ u v kneg sc pos pj x f

theorem psi_dirFree (c : Ctx ℝ) : DirFree (psi c) := by
  intro u v kneg sc pos pj pj' x f h1 h2 h3
  unfold psi
  simp only [h1, h2, h3]

/-- two descriptions of a half between which the fill cannot tell: the same segment, the same current direction
`sign·dir` (and `sign²`), the same `dir_sgn·len·dir` -/
structure SameHalf (t s : Side ℝ) : Prop where
  len : t.len = s.len
  r : t.r = s.r
  i6 : t.i6 = s.i6
  fend : t.fend = s.fend
  gsgn : t.gsgn = s.gsgn
  cur : vsmul t.sign t.dir = vsmul s.sign s.dir
  sq : t.sign * t.sign = s.sign * s.sign
  obs : vsmul (t.dsgn * t.len) t.dir = vsmul (s.dsgn * s.len) s.dir

theorem sameHalf_sense (b : Bool) (s : Side ℝ) : SameHalf (if b then negHalf s else s) s := by
  cases b
  · exact ⟨rfl, rfl, rfl, rfl, rfl, rfl, rfl, rfl⟩
  · refine ⟨rfl, rfl, rfl, rfl, rfl, ?_, neg_mul_neg _ _, ?_⟩ <;> simp [negHalf, negV, vsmul]

section SameHalf
variable (p : PulseD ℝ) {t0 t1 : Side ℝ} (g0 : SameHalf t0 p.s0) (g1 : SameHalf t1 p.s1)
include g0 g1

theorem side_sameHalf (pos : Bool) : SameHalf (side { p with s0 := t0, s1 := t1 } pos) (side p pos) := by
  cases pos; exacts [g0, g1]

theorem endseg_sameHalf (pos : Bool) (a : ℝ) : endseg { p with s0 := t0, s1 := t1 } pos a = endseg p pos a := by
  unfold endseg; rw [(side_sameHalf p g0 g1 pos).fend]

theorem dvecs_sameHalf (pos : Bool) (a : ℝ) : dvecs { p with s0 := t0, s1 := t1 } pos a = dvecs p pos a := by
  unfold dvecs; rw [endseg_sameHalf p g0 g1]

theorem psi_sameHalf {Ψ : PsiFn ℝ} (hΨ : DirFree Ψ) (u v : V3 ℝ) (kneg : Bool) (sc : ℝ) (pos x f : Bool) :
    Ψ u v kneg sc pos { p with s0 := t0, s1 := t1 } x f = Ψ u v kneg sc pos p x f :=
  have h := side_sameHalf p g0 g1 pos
  hΨ _ _ _ _ pos p _ _ _ h.len h.r h.i6

end SameHalf

/-- an entry reads each half of either pulse only through what `SameHalf` keeps -/
theorem entryK8_sameHalf (Ψ : PsiFn ℝ) (hΨ : DirFree Ψ) (c : Ctx ℝ) (k : ℝ) (kneg : Bool) (pi pj : PulseD ℝ)
    (xct : Bool) (f8 : Nat) {s0 s1 t0 t1 : Side ℝ} (h0 : SameHalf s0 pi.s0) (h1 : SameHalf s1 pi.s1)
    (g0 : SameHalf t0 pj.s0) (g1 : SameHalf t1 pj.s1) :
    entryK8 Ψ c k kneg { pi with s0 := s0, s1 := s1 } { pj with s0 := t0, s1 := t1 } xct f8
      = entryK8 Ψ c k kneg pi pj xct f8 := by
  have hj := side_sameHalf pj g0 g1
  have hz : obsVec { pi with s0 := s0, s1 := s1 } = obsVec pi := by
    unfold obsVec; rw [← h0.obs, ← h1.obs]
  have hp : ∀ pos, srcProj k (side { pj with s0 := t0, s1 := t1 } pos) = srcProj k (side pj pos) := by
    intro pos; funext z; rw [srcProj_eq, srcProj_eq, (hj pos).cur, (hj pos).gsgn]
  simp only [entryK8_eq, vecpot, scapot, dvecs_sameHalf pj g0 g1, endseg_sameHalf pi h0 h1, psi_sameHalf pj g0 g1 hΨ,
    hz, hp, (hj _).len, (hj _).r]
  rw [← g1.sq]

/-- **a half described in the opposite sense gives the same entries**: replacing `(dir, dir_sgn,
sign)` of a half of the observer and/or of the source pulse by their negatives changes nothing —
only the products `sign·dir` and `dir_sgn·len·dir` enter -/
theorem C06_dir_sign (Ψ : PsiFn ℝ) (hΨ : DirFree Ψ) (c : Ctx ℝ) (k : ℝ) (kneg : Bool) (pi pj : PulseD ℝ)
    (xct : Bool) (f8 : Nat) (a0 a1 b0 b1 : Bool) :
    entryK8 Ψ c k kneg
        { pi with s0 := if a0 then negHalf pi.s0 else pi.s0, s1 := if a1 then negHalf pi.s1 else pi.s1 }
        { pj with s0 := if b0 then negHalf pj.s0 else pj.s0, s1 := if b1 then negHalf pj.s1 else pj.s1 } xct f8
      = entryK8 Ψ c k kneg pi pj xct f8 :=
  entryK8_sameHalf Ψ hΨ c k kneg pi pj xct f8 (sameHalf_sense a0 _) (sameHalf_sense a1 _) (sameHalf_sense b0 _)
    (sameHalf_sense b1 _)

/-- the pulse described from the other side: halves exchanged, both direction vectors negated; its
number in the second description is `idx'` -/
def flipPulse (p : PulseD ℝ) (idx' : Nat) : PulseD ℝ :=
  { p with idx := idx', s0 := { p.s1 with dir := negV p.s1.dir }, s1 := { p.s0 with dir := negV p.s0.dir } }

theorem side_flip (p : PulseD ℝ) (i' : Nat) (pos : Bool) :
    side (flipPulse p i') pos = { side p (!pos) with dir := negV (side p (!pos)).dir } := by
  cases pos <;> rfl

theorem endseg_flip (p : PulseD ℝ) (i' : Nat) (pos : Bool) (a : ℝ) :
    endseg (flipPulse p i') pos a = endseg p (!pos) a := by
  unfold endseg
  rw [side_flip]
  rfl

theorem dvecs_flip (p : PulseD ℝ) (i' : Nat) (pos : Bool) (a : ℝ) :
    dvecs (flipPulse p i') pos a = ((dvecs p (!pos) a).2, (dvecs p (!pos) a).1) := by
  unfold dvecs
  cases pos <;> simp only [endseg_flip, Bool.false_eq_true, if_false, if_true, Bool.not_false, Bool.not_true] <;> rfl

theorem obsVec_flip (p : PulseD ℝ) (i' : Nat) : obsVec (flipPulse p i') = negV (obsVec p) := by
  simp only [obsVec, flipPulse, negV, vadd, vsmul, V3.mk.injEq]
  refine ⟨?_, ?_, ?_⟩ <;> ring

theorem srcProj_negV (k : ℝ) (s : Side ℝ) (z : V3 ℝ) : srcProj k s (negV z) = -srcProj k s z := by
  simp only [srcProj, negV, V3.dot]; ring

theorem srcProj_flip (k : ℝ) (p : PulseD ℝ) (j' : Nat) (pos : Bool) (z : V3 ℝ) :
    srcProj k (side (flipPulse p j') pos) z = -srcProj k (side p (!pos)) z := by
  simp only [side_flip, srcProj, negV, V3.dot]; ring

/-- **describing the observer pulse from the other side negates its row** (any Ψ).  `hidx`, `hsame`:
the renumbering keeps "same pulse" and "observation point = middle of the source segment". -/
theorem C06_flip_observer (Ψ : PsiFn ℝ) (c : Ctx ℝ) (k : ℝ) (kneg : Bool) (pi pj : PulseD ℝ) (xct : Bool)
    (i' : Nat) (hidx : (i' ≠ pj.idx) ↔ (pi.idx ≠ pj.idx))
    (hsame : ∀ p1 p2, sameMid i' pj.idx p1 p2 = sameMid pi.idx pj.idx (!p1) p2) :
    entryK Ψ c k kneg (flipPulse pi i') pj xct = -entryK Ψ c k kneg pi pj xct := by
  have e1 : (flipPulse pi i').idx = i' := rfl
  have e2 : (flipPulse pi i').pt = pi.pt := rfl
  have e3 : (flipPulse pi i').owner = pi.owner := rfl
  unfold entryK
  simp only [entryK8_eq, vecpot, scapot, e1, e2, e3, hidx, hsame, endseg_flip, obsVec_flip, srcProj_negV]
  rw [← CxC.cx_scale_neg, ← assemble_flip_observer]

/-- a functional that does not depend on the sense in which the path is described -/
@[reducible] def FlipSymAt (Ψ : PsiFn ℝ) (x : Bool) : Prop :=
  ∀ u v kneg sc pos (pj : PulseD ℝ) (j' : Nat) f,
    Ψ v u kneg sc pos (flipPulse pj j') x f = Ψ u v kneg sc (!pos) pj x f

@[reducible] def FlipSym (Ψ : PsiFn ℝ) : Prop := ∀ x, FlipSymAt Ψ x

/-- **describing the source pulse from the other side negates its column**, for every
orientation-independent Ψ -/
theorem C06_flip_source (Ψ : PsiFn ℝ) (c : Ctx ℝ) (k : ℝ) (kneg : Bool) (pi pj : PulseD ℝ)
    (xct : Bool) (hΨ : FlipSymAt Ψ xct) (j' : Nat) (hidx : (pi.idx ≠ j') ↔ (pi.idx ≠ pj.idx))
    (hsame : ∀ p1 p2, sameMid pi.idx j' p1 p2 = sameMid pi.idx pj.idx p1 (!p2)) :
    entryK Ψ c k kneg pi (flipPulse pj j') xct = -entryK Ψ c k kneg pi pj xct := by
  have e1 : (flipPulse pj j').idx = j' := rfl
  have e2 : (flipPulse pj j').owner = pj.owner := rfl
  unfold entryK
  simp only [entryK8_eq, vecpot, scapot, e1, e2, hidx, hsame, srcProj_flip, dvecs_flip, hΨ]
  simp only [side_flip]
  rw [← CxC.cx_scale_neg, ← assemble_flip_source (q' := pj.s0.sign * pj.s0.sign)]
  rfl

/-- describing the source pulse from the other side negates the whole entry too, image pass included (a flipped pulse is
grounded iff the pulse is) -/
theorem C06_flip_entry (Ψ : PsiFn ℝ) (c : Ctx ℝ) (g : Bool) (pi pj : PulseD ℝ) (xct : Bool)
    (hΨ : FlipSymAt Ψ xct) (j' : Nat) (hidx : (pi.idx ≠ j') ↔ (pi.idx ≠ pj.idx))
    (hsame : ∀ p1 p2, sameMid pi.idx j' p1 p2 = sameMid pi.idx pj.idx p1 (!p2)) :
    entry Ψ c g pi (flipPulse pj j') xct = -entry Ψ c g pi pj xct := by
  unfold entry
  exact both_passes (- ·) CxC.cx_neg_add (congrArg (fun b => g && !b) (Bool.or_comm _ _))
    (C06_flip_source Ψ c _ _ pi pj xct hΨ j' hidx hsame) fun _ => C06_flip_source Ψ c _ _ pi pj xct hΨ j' hidx hsame

/-- the node table is symmetric about the midpoint -/
def TableSym (c : Ctx ℝ) : Prop :=
  ∀ n, ((c.lg n).map fun xw => (-xw.1, xw.2)).Perm (c.lg n)

theorem integrand_swap (c : Ctx ℝ) (t : ℝ) (u v : V3 ℝ) (kneg : Bool) (r : ℝ) (e : Bool) :
    integrand c t v u kneg r e = integrand c (1 - t) u v kneg r e := by
  unfold integrand
  have h : ∀ a b : V3 ℝ, vadd b (vsmul t (vsub a b)) = vadd a (vsmul (1 - t) (vsub b a)) := by
    intro a b
    simp only [vadd, vsmul, vsub, V3.mk.injEq]
    refine ⟨?_, ?_, ?_⟩ <;> ring
  cases kneg <;> simp only [Bool.false_eq_true, if_false, if_true, h]

/-- a symmetric rule gives `g` and its reflection the same sum; the fold is spelled as in `psi`, which `rw` has to match -/
theorem gauss_sum_neg {L : List (ℝ × ℝ)} (hL : (L.map fun xw => (-xw.1, xw.2)).Perm L) (g : ℝ → Cx ℝ) :
    L.foldl (fun acc xw => (⟨acc.re + xw.2 * (g xw.1).re, acc.im + xw.2 * (g xw.1).im⟩ : Cx ℝ)) Far.cxZero
      = L.foldl (fun acc xw => (⟨acc.re + xw.2 * (g (-xw.1)).re, acc.im + xw.2 * (g (-xw.1)).im⟩ : Cx ℝ)) Far.cxZero := by
  rw [← hL.foldl_eq' fun x _ y _ z => by simp only [Cx.mk.injEq]; constructor <;> ring, List.foldl_map]

/-- **partial**: with a symmetric node table the implemented potential integral does not depend on
the sense of the path wherever it uses the reduced kernel over the whole path (`exact = false`:
pulses on objects that are not connected).  Not covered: the exact-kernel branch, which integrates
over half the path. -/
theorem C06_gauss_flip_partial (c : Ctx ℝ) (hsym : TableSym c) : FlipSymAt (psi c) false := by
  intro u v kneg sc pos pj j' f
  -- reversing the path, `t ↦ 1 - t`, is `x ↦ -x` on the nodes
  have e : ∀ x : ℝ, 1 - (x + 1 / 2) = -x + 1 / 2 := fun x => by ring
  unfold psi
  rw [side_flip]
  simp only [Bool.false_and, Bool.false_eq_true, if_false, add_comm (V3.norm v) (V3.norm u), Nat.cast_one,
    Nat.cast_ofNat, mul_one, integrand_swap c _ u v, e]
  rw [gauss_sum_neg (hsym _) fun x => integrand c (x + 1 / 2) u v kneg _ false]

/-- hence, for pulses on unconnected objects, the column of the implemented fill (reduced kernel,
every integral on its own) changes sign when the source pulse is described from the other side -/
theorem C06_flip_source_gauss (c : Ctx ℝ) (hsym : TableSym c) (k : ℝ) (kneg : Bool) (pi pj : PulseD ℝ)
    (j' : Nat) (hidx : (pi.idx ≠ j') ↔ (pi.idx ≠ pj.idx))
    (hsame : ∀ p1 p2, sameMid pi.idx j' p1 p2 = sameMid pi.idx pj.idx p1 (!p2)) :
    entryK (psi c) c k kneg pi (flipPulse pj j') false = -entryK (psi c) c k kneg pi pj false :=
  C06_flip_source (psi c) c k kneg pi pj false (C06_gauss_flip_partial c hsym) j' hidx hsame

/-- non-vacuity of the renumbering hypotheses: on a wire with `N` segments described backwards
pulse `i` becomes `N − 2 − i` (0-based, `N − 1` pulses) and "observation point is the middle of the
source segment" is preserved -/
example : ∀ p1 p2, sameMid (7 - 2 - 1) (7 - 2 - 2) p1 p2 = sameMid 1 2 (!p1) (!p2) := by decide

end Pmn.Props.C06
