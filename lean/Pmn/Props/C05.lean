/-
C05 — rigid-motion invariance of the impedance matrix (and with it of currents and impedances).

Translation: the fill uses only relative positions, so for *any* potential functional Ψ an entry is unchanged when both
pulses are shifted by the same vector (free space), resp. by a horizontal vector (over ground) — this is also C02's
"nothing but the pulse geometry".  Rotation: the potential integral `psi`, with its Gauss-order, exact-kernel and
small-radius decisions, depends on its vector arguments only through lengths, hence is invariant under every orthogonal
map, and so is every entry under a rotation of the whole antenna in free space and about the vertical axis over ground.
The (s, f/s) scaling of the matrix is in C05b.

Not theorems: that the pulse table of the moved antenna is `shiftPulse` / `rotPulse` of the table, flags kept (harness/c05.py
compares `Mininec.Z` of moved antennas with the model); the far-field pattern (evaluated there on the implementation).
-/
import Pmn.Props.C13
import Pmn.Proofs.FillLemmas
import Pmn.Proofs.Lin

namespace Pmn.Props.C05
open Pmn.Fill Pmn.Geom Pmn.Props.C13

def shiftSide (s : V3 ℝ) (x : Side ℝ) : Side ℝ := { x with fend := vadd x.fend s }
def shiftPulse (s : V3 ℝ) (p : PulseD ℝ) : PulseD ℝ :=
  { p with pt := vadd p.pt s, s0 := shiftSide s p.s0, s1 := shiftSide s p.s1 }

theorem side_shift (s : V3 ℝ) (p : PulseD ℝ) (pos : Bool) :
    side (shiftPulse s p) pos = shiftSide s (side p pos) := by
  cases pos <;> rfl

theorem endseg_shift (s : V3 ℝ) (p : PulseD ℝ) (pos : Bool) (a : ℝ) :
    endseg (shiftPulse s p) pos a = vadd (endseg p pos a) s := by
  unfold endseg
  rw [side_shift]
  simp only [shiftSide, shiftPulse, vadd, vsub, vsmul, V3.mk.injEq]
  refine ⟨?_, ?_, ?_⟩ <;> ring

theorem dvecs_shift (s : V3 ℝ) (p : PulseD ℝ) (pos : Bool) (a : ℝ) :
    dvecs (shiftPulse s p) pos a = (vadd (dvecs p pos a).1 s, vadd (dvecs p pos a).2 s) := by
  unfold dvecs
  cases pos <;> simp only [endseg_shift, Bool.false_eq_true, if_false, if_true] <;> rfl

/-- `h`: a mirrored source point (`k = −1`) follows the shift only if it is horizontal -/
theorem rel_shift (k : ℝ) (s a b : V3 ℝ) (h : k = 1 ∨ s.z = 0) :
    vsub (kmul k (vadd a s)) (vadd b s) = vsub (kmul k a) b := by
  simp only [vsub, kmul, vadd, V3.mk.injEq]
  refine ⟨by ring, by ring, ?_⟩
  rcases h with h | h <;> rw [h] <;> ring

/-- a functional that looks at the source pulse only through the data of its two sides other than positions -/
@[reducible] def PosFree (Ψ : PsiFn ℝ) : Prop :=
  ∀ (s : V3 ℝ) u v kneg sc pos pj x f, Ψ u v kneg sc pos (shiftPulse s pj) x f = Ψ u v kneg sc pos pj x f

theorem entryK8_shift (Ψ : PsiFn ℝ) (hΨ : PosFree Ψ) (c : Ctx ℝ) (k : ℝ) (kneg : Bool) (s : V3 ℝ)
    (pi pj : PulseD ℝ) (xct : Bool) (f8 : Nat) (h : k = 1 ∨ s.z = 0) :
    entryK8 Ψ c k kneg (shiftPulse s pi) (shiftPulse s pj) xct f8 = entryK8 Ψ c k kneg pi pj xct f8 := by
  have e : (shiftPulse s pi).pt = vadd pi.pt s := rfl
  simp only [entryK8_eq, vecpot, scapot, side_shift, dvecs_shift, endseg_shift, hΨ, e, rel_shift k s _ _ h]
  -- left: the fields the shift does not touch, read through `shiftSide` / `shiftPulse`
  rfl

/-- **translation invariance** of every matrix entry, for any potential functional: in free space
under every translation, over a ground plane under every horizontal translation -/
theorem C05_translate (Ψ : PsiFn ℝ) (hΨ : PosFree Ψ) (c : Ctx ℝ) (hasGround : Bool) (s : V3 ℝ)
    (pi pj : PulseD ℝ) (xct : Bool) (h : hasGround = false ∨ s.z = 0) :
    entry Ψ c hasGround (shiftPulse s pi) (shiftPulse s pj) xct = entry Ψ c hasGround pi pj xct := by
  unfold entry
  -- the image pass (`hg`) is taken over ground only, where the shift is horizontal
  exact both_passes id (fun _ _ => rfl) rfl (entryK8_shift Ψ hΨ c _ false s pi pj xct 0 (Or.inl Nat.cast_one))
    fun hg => entryK8_shift Ψ hΨ c _ true s pi pj xct 0 (h.imp_left fun h => by simp [h] at hg)

/-- … and the same for the fill as implemented, including its evaluation shortcuts -/
theorem C05_translate_algo (c : Ctx ℝ) (hasGround : Bool) (s : V3 ℝ) (pi pj : PulseD ℝ) (xct : Bool)
    (hΨ : PosFree (psi c)) (h : hasGround = false ∨ s.z = 0) :
    entryAlgo c hasGround (shiftPulse s pi) (shiftPulse s pj) xct = entryAlgo c hasGround pi pj xct := by
  unfold entryAlgo
  -- `f8Of` of the moved pulses is `f8Of pi pj` by `rfl`: left to unification, here and in `C05_rotate_algo_free`
  exact both_passes id (fun _ _ => rfl) rfl (entryK8_shift (psi c) hΨ c _ false s pi pj xct (f8Of pi pj) (Or.inl Nat.cast_one))
    fun hg => entryK8_shift (psi c) hΨ c _ true s pi pj xct 0 (h.imp_left fun h => by simp [h] at hg)

theorem psi_posFree (c : Ctx ℝ) : PosFree (psi c) := by
  intro s u v kneg sc pos pj x f
  unfold psi
  simp only [side_shift, shiftSide]

theorem psiSpec_posFree (c : Ctx ℝ) (tol : ℝ) : PosFree (psiSpec c tol) := by
  intro s u v kneg sc pos pj x f
  unfold psiSpec
  simp only [side_shift, shiftSide]

noncomputable def mv (M : M3 ℝ) (v : V3 ℝ) : V3 ℝ := M.mulVec v

theorem mv_add (M : M3 ℝ) (a b : V3 ℝ) : mv M (vadd a b) = vadd (mv M a) (mv M b) := by
  simp only [mv, M3.mulVec, V3.dot, vadd, V3.mk.injEq]; refine ⟨?_, ?_, ?_⟩ <;> ring
theorem mv_sub (M : M3 ℝ) (a b : V3 ℝ) : mv M (vsub a b) = vsub (mv M a) (mv M b) :=
  (mulVec_sub M a b).symm
theorem mv_smul (M : M3 ℝ) (c : ℝ) (a : V3 ℝ) : mv M (vsmul c a) = vsmul c (mv M a) := by
  simp only [mv, M3.mulVec, V3.dot, vsmul, V3.mk.injEq]; refine ⟨?_, ?_, ?_⟩ <;> ring

theorem norm_mv (M : M3 ℝ) (hM : Orthogonal M) (v : V3 ℝ) : V3.norm (mv M v) = V3.norm v := by
  unfold V3.norm V3.normSq mv
  rw [hM v v]

theorem integrand_rot (c : Ctx ℝ) (M : M3 ℝ) (hM : Orthogonal M) (t : ℝ) (u v : V3 ℝ) (kneg : Bool)
    (r : ℝ) (exact : Bool) :
    integrand c t (mv M u) (mv M v) kneg r exact = integrand c t u v kneg r exact := by
  unfold integrand
  simp only [← apply_ite (mv M), ← mv_sub, ← mv_smul, ← mv_add, norm_mv M hM]

/-- **the potential integral is invariant under orthogonal maps** — including the choice of the
Gauss order, of the exact kernel and of the small-radius formula, which are functions of lengths -/
theorem psi_rot (c : Ctx ℝ) (M : M3 ℝ) (hM : Orthogonal M) (u v : V3 ℝ) (kneg : Bool) (sc : ℝ)
    (pos : Bool) (pj : PulseD ℝ) (x f : Bool) :
    psi c (mv M u) (mv M v) kneg sc pos pj x f = psi c u v kneg sc pos pj x f := by
  unfold psi
  simp only [norm_mv M hM, integrand_rot c M hM]

noncomputable def rotSide (M : M3 ℝ) (x : Side ℝ) : Side ℝ := { x with fend := mv M x.fend, dir := mv M x.dir }
noncomputable def rotPulse (M : M3 ℝ) (p : PulseD ℝ) : PulseD ℝ :=
  { p with pt := mv M p.pt, s0 := rotSide M p.s0, s1 := rotSide M p.s1 }

theorem side_rot (M : M3 ℝ) (p : PulseD ℝ) (pos : Bool) : side (rotPulse M p) pos = rotSide M (side p pos) := by
  cases pos <;> rfl

theorem endseg_rot (M : M3 ℝ) (p : PulseD ℝ) (pos : Bool) (a : ℝ) :
    endseg (rotPulse M p) pos a = mv M (endseg p pos a) := by
  unfold endseg
  rw [side_rot]
  simp only [rotSide, rotPulse, mv_add, mv_smul, mv_sub]

theorem dvecs_rot (M : M3 ℝ) (p : PulseD ℝ) (pos : Bool) (a : ℝ) :
    dvecs (rotPulse M p) pos a = (mv M (dvecs p pos a).1, mv M (dvecs p pos a).2) := by
  unfold dvecs
  cases pos <;> simp only [endseg_rot, Bool.false_eq_true, if_false, if_true] <;> rfl

/-- `M` commutes with the mirror factor `(1,1,g)`: trivially for `g = 1`, and for every `g` when `M` is a rotation about the
vertical axis -/
def Commutes (M : M3 ℝ) (g : ℝ) : Prop := ∀ v, kmul g (mv M v) = mv M (kmul g v)

theorem commutes_one (M : M3 ℝ) {g : ℝ} (hg : g = 1) : Commutes M g := by
  intro v; simp [kmul, hg]

theorem commutes_rotZ (a g : ℝ) : Commutes (rotZ a) g := by
  intro v
  simp only [kmul, mv, rotZ, M3.mulVec, V3.dot, V3.mk.injEq]
  refine ⟨?_, ?_, ?_⟩ <;> push_cast <;> ring

def RotFree (M : M3 ℝ) (Ψ : PsiFn ℝ) : Prop :=
  ∀ u v kneg sc pos pj x f, Ψ (mv M u) (mv M v) kneg sc pos (rotPulse M pj) x f = Ψ u v kneg sc pos pj x f

theorem psi_rotFree (c : Ctx ℝ) (M : M3 ℝ) (hM : Orthogonal M) : RotFree M (psi c) := by
  intro u v kneg sc pos pj x f
  rw [psi_rot c M hM]
  unfold psi
  simp only [side_rot, rotSide]

theorem kmul_def (g : ℝ) (d : V3 ℝ) : (⟨d.x, d.y, g * d.z⟩ : V3 ℝ) = kmul g d := rfl

theorem obsVec_rot (M : M3 ℝ) (p : PulseD ℝ) : obsVec (rotPulse M p) = mv M (obsVec p) := by
  simp only [obsVec, rotPulse, rotSide, mv_add, mv_smul]

theorem srcProj_rot (M : M3 ℝ) (hM : Orthogonal M) (k : ℝ) (s : Side ℝ) (h : Commutes M (k * s.gsgn)) (z : V3 ℝ) :
    srcProj k (rotSide M s) (mv M z) = srcProj k s z := by
  rw [srcProj_eq, srcProj_eq]
  show V3.dot (kmul (k * s.gsgn) (vsmul s.sign (mv M s.dir))) (mv M z) = _
  -- with `M` pulled out of the mirror factor, a dot product of two rotated vectors
  rw [← mv_smul, h]
  exact hM _ _

theorem entryK8_rot (Ψ : PsiFn ℝ) (c : Ctx ℝ) (M : M3 ℝ) (hM : Orthogonal M) (hΨ : RotFree M Ψ)
    (k : ℝ) (kneg : Bool) (pi pj : PulseD ℝ) (xct : Bool) (f8 : Nat)
    (hk : Commutes M k) (hg : ∀ pos, Commutes M (k * (side pj pos).gsgn)) :
    entryK8 Ψ c k kneg (rotPulse M pi) (rotPulse M pj) xct f8 = entryK8 Ψ c k kneg pi pj xct f8 := by
  have e : (rotPulse M pi).pt = mv M pi.pt := rfl
  have hp : ∀ pos, srcProj k (rotSide M (side pj pos)) (mv M (obsVec pi)) = srcProj k (side pj pos) (obsVec pi) :=
    fun pos => srcProj_rot M hM k _ (hg pos) _
  simp only [entryK8_eq, vecpot, scapot, side_rot, dvecs_rot, endseg_rot, obsVec_rot, e, hk _, ← mv_sub,
    hΨ _ _ _ _ _ _ _ _, hp]
  -- left: the untouched fields, as in `entryK8_shift`
  rfl

theorem entryK8_rotZ (c : Ctx ℝ) (a k : ℝ) (kneg : Bool) (pi pj : PulseD ℝ) (xct : Bool) (f8 : Nat) :
    entryK8 (psi c) c k kneg (rotPulse (rotZ a) pi) (rotPulse (rotZ a) pj) xct f8
      = entryK8 (psi c) c k kneg pi pj xct f8 :=
  entryK8_rot (psi c) c _ (orth_rotZ a) (psi_rotFree c _ (orth_rotZ a)) k kneg pi pj xct f8 (commutes_rotZ a _)
    fun _ => commutes_rotZ a _

/-- **rotation invariance in free space**: every entry of the matrix is unchanged when the whole
antenna is rotated by any orthogonal matrix (in particular by `--geo-rotate` with any three angles,
`C13_rot_orthogonal`) -/
theorem C05_rotate_free (c : Ctx ℝ) (M : M3 ℝ) (hM : Orthogonal M) (pi pj : PulseD ℝ) (xct : Bool)
    (hg0 : pj.s0.gsgn = 1) (hg1 : pj.s1.gsgn = 1) :
    entry (psi c) c false (rotPulse M pi) (rotPulse M pj) xct = entry (psi c) c false pi pj xct := by
  unfold entry
  simp only [Bool.false_and, Bool.false_eq_true, if_false]
  exact entryK8_rot (psi c) c M hM (psi_rotFree c M hM) _ false pi pj xct 0
    (commutes_one M Nat.cast_one) fun pos => commutes_one M (by cases pos <;> simp [side, hg0, hg1])

/-- **rotation about the vertical axis over ground**: direct and image pass are both unchanged -/
theorem C05_rotate_ground (c : Ctx ℝ) (a : ℝ) (hasGround : Bool) (pi pj : PulseD ℝ) (xct : Bool) :
    entry (psi c) c hasGround (rotPulse (rotZ a) pi) (rotPulse (rotZ a) pj) xct
      = entry (psi c) c hasGround pi pj xct := by
  unfold entry entryK
  simp only [entryK8_rotZ]
  -- left: the `gnd` flags of the rotated source, which are those of the source
  rfl

/-- the same for the fill as implemented (with its evaluation shortcuts), free space and ground -/
theorem C05_rotate_algo (c : Ctx ℝ) (a : ℝ) (hasGround : Bool) (pi pj : PulseD ℝ) (xct : Bool) :
    entryAlgo c hasGround (rotPulse (rotZ a) pi) (rotPulse (rotZ a) pj) xct = entryAlgo c hasGround pi pj xct := by
  unfold entryAlgo
  simp only [entryK8_rotZ]
  -- left: the `gnd` flags and `f8Of` of the rotated pulses, which are those of the pulses
  rfl

theorem C05_rotate_algo_free (c : Ctx ℝ) (M : M3 ℝ) (hM : Orthogonal M) (pi pj : PulseD ℝ) (xct : Bool)
    (hg0 : pj.s0.gsgn = 1) (hg1 : pj.s1.gsgn = 1) :
    entryAlgo c false (rotPulse M pi) (rotPulse M pj) xct = entryAlgo c false pi pj xct := by
  unfold entryAlgo
  simp only [Bool.false_and, Bool.false_eq_true, if_false]
  exact entryK8_rot (psi c) c M hM (psi_rotFree c M hM) _ false pi pj xct (f8Of pi pj)
    (commutes_one M Nat.cast_one) fun pos => commutes_one M (by cases pos <;> simp [side, hg0, hg1])

/-- equal matrices and right-hand sides have equal solutions: currents and feed impedances of the
moved antenna are those of the original (uniqueness of the solution of an invertible system) -/
theorem C05_currents {n : Type} [Fintype n] [DecidableEq n] (Z Z' : Matrix n n ℂ) (b b' I I' : n → ℂ)
    (hZ : IsUnit Z.det) (hZZ : Z' = Z) (hbb : b' = b) (h : Z.mulVec I = b) (h' : Z'.mulVec I' = b') :
    I' = I := by
  subst hZZ hbb
  exact Pmn.Lin.mulVec_injective hZ (h'.trans h.symm)

end Pmn.Props.C05
