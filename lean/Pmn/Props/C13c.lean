/-
C13, taper from both ends (`taper.taper2`, `Pmn.Geom.taper2Loop`): positive lengths, neighbouring segments within the
factor 2.1 either way.

Over ℝ the list of lengths of an accepted taper is computed (`taper2_lengths`: a doubling run, equal lengths in the middle,
the doubling run reversed) and the clauses are read off it.  That the doubling does not run into the middle follows from
`minl ≥ l / npieces`.  `taper2Loop` checks no limit, and neither `min_t` nor `max_t` has a theorem for this taper; the
harness evaluates both.
-/
import Pmn.Props.C13b

namespace Pmn.Props.C13c
open Pmn.Geom Pmn.Props.C13 Pmn.Props.C13b

theorem taper2Loop_halving_step {p1 p2 lv minc : V3 ℝ} {eps : ℝ} {n f i bound : Nat} {p inc1 q : V3 ℝ}
    (hi : i + (f + 1) = n) (hq : (if f = 0 then p2 else p + smulV (2 ^ f) minc) = q) :
    taper2Loop p1 p2 lv minc eps n (f + 1) i 2 bound p inc1 =
      (p, q) :: taper2Loop p1 p2 lv minc eps n f (i + 1) 2 bound q inc1 := by
  subst hi hq
  rw [taper2Loop]
  cases f with
  | zero => simp [taper2Loop]
  | succ f => simp

theorem taper2Loop_steady_step {p1 p2 lv minc : V3 ℝ} {eps : ℝ} {n f i b : Nat} {p inc1 q : V3 ℝ}
    (hi : i + (f + 1) = n) (hib : i < b) (hq : (if f = 0 then p2 else p + inc1) = q) :
    taper2Loop p1 p2 lv minc eps n (f + 1) i 1 b p inc1 =
      (p, q) :: taper2Loop p1 p2 lv minc eps n f (i + 1) 1 b q inc1 := by
  subst hi hq
  rw [taper2Loop]
  cases f with
  | zero => simp [taper2Loop]
  | succ f => simp [Nat.not_le.mpr hib]

theorem taper2Loop_steady_to_halving {p1 p2 lv minc : V3 ℝ} {eps : ℝ} {n i b : Nat} {p inc1 : V3 ℝ} (hib : b ≤ i) :
    ∀ fuel, taper2Loop p1 p2 lv minc eps n fuel i 1 b p inc1 = taper2Loop p1 p2 lv minc eps n fuel i 2 b p inc1
  | 0 => rfl
  | f + 1 => by
    rw [taper2Loop, taper2Loop]
    simp [hib]

/-- doubling state before the middle of the wire, `inc1` the even share of the middle: either the loop goes on as the
steady one with bound `n − i`, or it doubles once more -/
theorem taper2Loop_doubling_step {p1 p2 lv minc : V3 ℝ} {eps : ℝ} {n f i bound : Nat} {p inc1Prev inc1 : V3 ℝ}
    (h2i : 2 * i < n) (hn : 2 ≤ n)
    (hinc1 : inc1 = divV (lv - smulV 2 (p - p1)) ((n - 2 * i : Nat) : ℝ)) :
    taper2Loop p1 p2 lv minc eps n (f + 1) i 0 bound p inc1Prev =
      if V3.norm inc1 < V3.norm (smulV (2 ^ i) minc) + eps then
        taper2Loop p1 p2 lv minc eps n (f + 1) i 1 (n - i) p inc1
      else
        (p, p + smulV (2 ^ i) minc) :: taper2Loop p1 p2 lv minc eps n f (i + 1) 0 bound (p + smulV (2 ^ i) minc) inc1 := by
  have hrem : ¬ ((n : Int) - 2 * (i : Int) < 0) := by omega
  have habs : ((n : Int) - 2 * (i : Int)).natAbs = n - 2 * i := by omega
  have hlast : ¬ i = n - 1 := by omega
  rw [taper2Loop]
  simp only [hrem, if_false, habs, Nat.cast_zero, Nat.cast_pow, Nat.cast_ofNat, ← hinc1, switch_iff]
  by_cases hsw : V3.norm inc1 < V3.norm (smulV (2 ^ i) minc) + eps
  · rw [if_pos hsw, taper2Loop]
    simp [hsw, hlast, show ¬ n - i ≤ i by omega]
  · simp [hsw, hlast]

/-- `npieces` of `taper2Minl`: how many of the smallest length fill a taper that doubles all the way to the middle -/
def taper2Pieces (n : Nat) : Nat :=
  if n % 2 = 1 then 2 * (2 ^ (n / 2) - 1) + 2 ^ (n / 2) else 2 * (2 ^ (n / 2) - 1)

theorem taper2Pieces_pos {n : Nat} (hn : 2 ≤ n) : 0 < taper2Pieces n := by
  have := Nat.one_lt_two_pow (n := n / 2) (by omega)
  unfold taper2Pieces
  split <;> omega

/-- the pieces counted at the last index `i` before the middle: `2^i − 1` twice over and one or two of `2^i` -/
theorem taper2Pieces_eq {n : Nat} (i : Nat) (h2i : 2 * i < n) (hle : n ≤ 2 * i + 2) :
    (taper2Pieces n : ℝ) = 2 * (2 ^ i - 1) + ((n - 2 * i : Nat) : ℝ) * 2 ^ i := by
  obtain rfl | rfl : n = 2 * i + 1 ∨ n = 2 * (i + 1) := by omega
  · rw [taper2Pieces, Nat.mul_add_mod, if_pos rfl, show (2 * i + 1) / 2 = i by omega, Nat.add_sub_cancel_left]
    push_cast [Nat.cast_pred (Nat.two_pow_pos _)]; ring
  · rw [taper2Pieces, Nat.mul_mod_right, if_neg Nat.zero_ne_one, Nat.mul_div_cancel_left _ two_pos,
      show 2 * (i + 1) - 2 * i = 2 by omega]
    push_cast [Nat.cast_pred (Nat.two_pow_pos _)]; ring

/-- neighbouring lengths differ by at most the factor 2.1, either way -/
def Near (a b : ℝ) : Prop := a ≤ 2.1 * b ∧ b ≤ 2.1 * a

/-- the lengths of a two-sided taper of `n` segments over a wire of length `L`: a doubling run, `n − 2k` equal lengths `c`
that share the middle of the wire, the doubling run reversed; `2^(k−1)·m ≤ c` is for `Near` downwards where the runs meet -/
def Taper2Shape (n : Nat) (L m eps : ℝ) (lens : List ℝ) : Prop :=
  ∃ (k : Nat) (c : ℝ), 2 * k < n ∧ ((n - 2 * k : Nat) : ℝ) * c = L - 2 * ((2 ^ k - 1) * m) ∧ 0 < c ∧
    c < 2 ^ k * m + eps ∧ (∀ j, k = j + 1 → 2 ^ j * m ≤ c) ∧
    lens = doubling m k ++ List.replicate (n - 2 * k) c ++ (doubling m k).reverse

theorem Taper2Shape.pos {n : Nat} {L m eps : ℝ} {lens : List ℝ} (hm : 0 < m) (h : Taper2Shape n L m eps lens) :
    ∀ x ∈ lens, 0 < x := by
  obtain ⟨k, c, -, -, hc, -, -, rfl⟩ := h
  simp only [List.forall_mem_append, List.mem_reverse]
  exact ⟨⟨fun _ => doubling_pos hm, fun _ hx => List.eq_of_mem_replicate hx ▸ hc⟩, fun _ => doubling_pos hm⟩

/-- doubling and equal run as for the one-sided taper, with `2^j·m ≤ c` for the other direction; equal and halving run are
the same two reversed -/
theorem Taper2Shape.isChain {n : Nat} {L m eps : ℝ} {lens : List ℝ} (hm : 0 < m) (heps : eps ≤ m / 10)
    (h : Taper2Shape n L m eps lens) : List.IsChain Near lens := by
  obtain ⟨k, c, hk, -, hc, hlt, hlo, rfl⟩ := h
  have hup : List.IsChain Near (doubling m k ++ List.replicate (n - 2 * k) c) := by
    refine isChain_doubling_replicate (fun j => ?_) ⟨by linarith only [hc], by linarith only [hc]⟩ k _ fun j hj => ?_
    · have : 0 < 2 ^ j * m := by positivity
      rw [pow_succ]
      exact ⟨by linarith only [this], by linarith only [this]⟩
    · exact ⟨by linarith only [hlo j hj, hc], switch_le hm heps j (hj ▸ hlt)⟩
  have hdown : List.IsChain Near (List.replicate (n - 2 * k) c ++ (doubling m k).reverse) := by
    rw [← List.reverse_replicate, ← List.reverse_append, List.isChain_reverse]
    exact hup.imp fun _ _ hab => hab.symm
  exact hup.append_overlap hdown (by simp; omega)

/-! ### the three runs, on the line `p1 + smulV s e` through the wire (`e` a unit vector) -/

section Runs
variable {e p1 : V3 ℝ} {L m eps : ℝ} {n : Nat}

/-- halving phase: with `(2^fuel − 1)·m` of the wire left, the remaining segments are `2^(fuel−1)·m, …, 2m, m` -/
theorem taper2Loop_halving (he : V3.norm e = 1) (hm : 0 < m) {lv inc1 : V3 ℝ} {bound : Nat} :
    ∀ (fuel i : Nat) (s : ℝ), i + fuel = n → L - s = (2 ^ fuel - 1) * m →
      (taper2Loop p1 (p1 + smulV L e) lv (smulV m e) eps n fuel i 2 bound (p1 + smulV s e) inc1).map len
        = (doubling m fuel).reverse := by
  intro fuel
  induction fuel with
  | zero => intro i s _ _; rfl
  | succ f ih =>
    intro i s hi hs
    rw [pow_succ] at hs
    rw [taper2Loop_halving_step hi (q := p1 + smulV (s + 2 ^ f * m) e) (by
        rw [Line.smulV_smulV]
        refine Line.step_or_end fun hf => ?_
        rw [hf] at hs ⊢; linarith),
      List.map_cons, len_step he (by positivity), ih _ _ (by omega) (by linarith), doubling_succ,
      List.reverse_append, List.reverse_singleton, List.singleton_append]

/-- steady phase with bound `b`, `d` segments before it and `k` after it: the `d` are `c` long if `d·c` and the halving
run make up what is left of the wire -/
theorem taper2Loop_steady (he : V3.norm e = 1) (hm : 0 < m) {c : ℝ} (hc : 0 ≤ c) {lv : V3 ℝ} {b k : Nat}
    (hbk : b + k = n) :
    ∀ (d fuel i : Nat) (s : ℝ), i + fuel = n → i + d = b → L - s = d * c + (2 ^ k - 1) * m →
      (taper2Loop p1 (p1 + smulV L e) lv (smulV m e) eps n fuel i 1 b (p1 + smulV s e) (smulV c e)).map len
        = List.replicate d c ++ (doubling m k).reverse := by
  intro d
  induction d with
  | zero =>
    intro fuel i s hi hib hs
    obtain rfl : fuel = k := by omega
    rw [Nat.cast_zero, zero_mul, zero_add] at hs
    rw [taper2Loop_steady_to_halving (by omega)]
    exact taper2Loop_halving he hm _ i s hi hs
  | succ d ih =>
    intro fuel i s hi hib hs
    obtain ⟨f, rfl⟩ : ∃ f, fuel = f + 1 := ⟨fuel - 1, by omega⟩
    rw [Nat.cast_succ] at hs
    rw [taper2Loop_steady_step hi (by omega) (q := p1 + smulV (s + c) e)
        (Line.step_or_end fun hf => by
          rw [show d = 0 by omega, show k = 0 by omega] at hs
          norm_num at hs; linarith only [hs]),
      List.map_cons, len_step he hc, ih f (i + 1) _ (by omega) (by omega) (by linarith only [hs]),
      List.replicate_succ, List.cons_append]

/-- doubling phase, having reached index `i` at `(2^i − 1)·m` along the wire.  The last hypothesis (the even share of the
middle is at least the last doubled length) is the invariant behind `2^j·m ≤ c` in `Taper2Shape` -/
theorem taper2Loop_lengths (he : V3.norm e = 1) (hm : 0 < m) (heps : 0 < eps) (hn : 2 ≤ n)
    (hbig : L ≤ taper2Pieces n * m) :
    ∀ (fuel i bound : Nat) (inc1Prev : V3 ℝ), i + fuel = n → 2 * i < n →
      2 * ((2 ^ i - 1) * m) < L →
      (∀ j, i = j + 1 → ((n - 2 * i : Nat) : ℝ) * (2 ^ j * m) ≤ L - 2 * ((2 ^ i - 1) * m)) →
      Taper2Shape n L m eps (doubling m i ++ (taper2Loop p1 (p1 + smulV L e) (smulV L e) (smulV m e) eps n fuel i 0
        bound (p1 + smulV ((2 ^ i - 1) * m) e) inc1Prev).map len) := by
  intro fuel
  induction fuel with
  | zero => intro i _ _ _ _; omega
  | succ f ih =>
    intro i bound inc1Prev hi h2i hmid hlow
    generalize hsdef : (2 ^ i - 1) * m = s at hmid hlow ⊢
    -- `R` opaque: no tactic below looks into the cast of the truncated subtraction
    obtain ⟨R, hRdef⟩ : ∃ R : ℝ, R = ((n - 2 * i : Nat) : ℝ) := ⟨_, rfl⟩
    rw [← hRdef] at hlow
    have hR1 : 1 ≤ R := by rw [hRdef]; exact Nat.one_le_cast.mpr (by omega)
    -- the middle part of the wire, divided evenly
    obtain ⟨c, hc, hRc, hdiv⟩ := Line.divV_rest e (rest := L - 2 * s) (r := R) (by linarith only [hmid])
      (by linarith only [hR1])
    rw [taper2Loop_doubling_step h2i hn (inc1 := smulV c e) (by
        rw [Line.add_sub_cancel_left, Line.smulV_smulV, Line.smulV_sub_smulV, ← hRdef, hdiv]),
      Line.norm_smulV_of_nonneg he hc.le, Line.norm_pow_smulV he hm.le]
    by_cases hsw : c < 2 ^ i * m + eps
    · rw [if_pos hsw]
      refine ⟨i, c, h2i, by rw [← hRdef, hsdef]; exact hRc, hc, hsw, fun j hj => ?_, ?_⟩
      · have := hlow j hj
        rw [← hRc] at this
        exact le_of_mul_le_mul_left this (by linarith only [hR1])
      · rw [taper2Loop_steady he hm hc.le (Nat.sub_add_cancel (by omega : i ≤ n)) (n - 2 * i) (f + 1) i s
          hi (by omega) (by rw [← hRdef, hsdef]; linarith only [hRc]), List.append_assoc]
    · rw [if_neg hsw, Line.smulV_smulV, Line.add_smulV_add_smulV]
      have hnext : s + 2 ^ i * m = (2 ^ (i + 1) - 1) * m := by rw [← hsdef]; ring
      have hX : 0 < 2 ^ i * m := by positivity
      have hprod : R * (2 ^ i * m + eps) ≤ L - 2 * s := by
        rw [← hRc]; exact mul_le_mul_of_nonneg_left (not_lt.mp hsw) (by linarith only [hR1])
      have hReps : 0 < R * eps := mul_pos (by linarith only [hR1]) heps
      -- the doubling cannot go on into the middle of the wire: the first segment is at least `l / npieces`
      have h2i' : 2 * (i + 1) < n := by
        by_contra hcon
        rw [taper2Pieces_eq i h2i (by omega), ← hRdef] at hbig
        linarith only [hbig, hprod, hReps, hsdef]
      have hR3 : 3 ≤ R := by rw [hRdef]; exact Nat.ofNat_le_cast.mpr (by omega)
      have h3 : 3 * (2 ^ i * m + eps) ≤ R * (2 ^ i * m + eps) :=
        mul_le_mul_of_nonneg_right hR3 (by linarith only [hX, heps])
      have hR' : ((n - 2 * (i + 1) : Nat) : ℝ) = R - 2 := by
        rw [hRdef, show n - 2 * i = n - 2 * (i + 1) + 2 by omega]; push_cast; ring
      rw [List.map_cons, len_step he hX.le, hnext, List.append_cons, ← doubling_succ]
      exact ih (i + 1) bound (smulV c e) (by omega) h2i'
        (by rw [← hnext]; linarith only [hprod, h3, hX, heps]) (fun j hj => by
          obtain rfl : j = i := by omega
          rw [hR', ← hnext]; linarith only [hprod, hReps])

end Runs

/-- as `taper1Minl_ok`, with `taper2Pieces n` for `2ⁿ − 1` -/
theorem taper2Minl_ok {l : ℝ} {n : Nat} {minT : ℝ} {maxT : Option ℝ} {minl eps : ℝ}
    (h : taper2Minl l n minT maxT = .ok (minl, eps)) :
    eps = maxK (l / (taper2Pieces n : ℝ)) minT / ((10 : Nat) : ℝ) ∧ maxK (l / (taper2Pieces n : ℝ)) minT ≤ minl := by
  unfold taper2Minl at h
  unfold maxK
  -- folds the model's inline `npiecesN` into `taper2Pieces n`: the two bodies must agree syntactically
  simp only [← taper2Pieces.eq_1] at h
  generalize (if l / (taper2Pieces n : ℝ) < minT then minT else l / (taper2Pieces n : ℝ)) = m0 at h ⊢
  split at h
  · cases h; exact ⟨rfl, le_refl _⟩
  · rename_i mx
    generalize (if n % 2 = 1 then mx / ((2 ^ (n / 2) : Nat) : ℝ) else mx / ((2 ^ (n / 2 - 1) : Nat) : ℝ)) = maxl at h
    generalize (if n % 2 = 1 then 1 else 2) = d at h
    split at h
    · split at h
      · cases h
      · split at h
        · cases h
        · cases h; exact ⟨rfl, le_maxK _ _⟩
    · cases h; exact ⟨rfl, le_refl _⟩

/-- **the lengths of a two-sided taper**, with `(m, eps)` from `taper2Minl` -/
theorem taper2_lengths {p1 p2 : V3 ℝ} {n : Nat} {r minT : ℝ} {maxT : Option ℝ} {c25 : ℝ}
    {segs : List (V3 ℝ × V3 ℝ)} (hl : 0 < V3.norm (p2 - p1)) (h : taper2 p1 p2 n r minT maxT c25 = .ok segs) :
    ∃ (m eps : ℝ), taper2Minl (V3.norm (p2 - p1)) n (maxK (c25 * r) minT) maxT = .ok (m, eps) ∧ 0 < m ∧
      eps ≤ m / 10 ∧ Taper2Shape n (V3.norm (p2 - p1)) m eps (segs.map len) := by
  obtain ⟨m, eps, hn, hminl, rfl⟩ := taper2_ok h
  obtain ⟨heq, hge⟩ := taper2Minl_ok hminl
  obtain ⟨hm, heps0, heps, hbig⟩ := minl_facts hl (Nat.cast_pos.mpr (taper2Pieces_pos hn)) (le_maxK _ _) hge heq
  obtain ⟨e, he, hp2⟩ := Line.exists_unit p1 p2 hl
  generalize V3.norm (p2 - p1) = L at *
  subst hp2
  rw [Line.add_sub_cancel_left, Line.smulV_smulV, div_mul_cancel₀ m hl.ne']
  have := taper2Loop_lengths (p1 := p1) he hm heps0 hn hbig n 0 0 (smulV L e) (by omega) (by omega)
    (by simpa using hl) (fun j hj => by omega)
  exact ⟨m, eps, hminl, hm, heps, by simpa [doubling, Line.add_smulV_zero] using this⟩

/-- every segment has positive length and differs from its predecessor (`prev` for the first) by at most the factor 2.1 -/
def NearChain : Option ℝ → List (V3 ℝ × V3 ℝ) → Prop
  | _, [] => True
  | none, s :: r => 0 < len s ∧ NearChain (some (len s)) r
  | some a, s :: r => Near a (len s) ∧ 0 < len s ∧ NearChain (some (len s)) r

theorem nearChain_some_iff (a : ℝ) (r : List (V3 ℝ × V3 ℝ)) :
    NearChain (some a) r ↔ List.IsChain Near (a :: r.map len) ∧ ∀ s ∈ r, 0 < len s := by
  induction r generalizing a with
  | nil => simp [NearChain]
  | cons b r ih => simp only [NearChain, List.map_cons, List.isChain_cons_cons, ih, List.forall_mem_cons]; tauto

theorem nearChain_none_iff (segs : List (V3 ℝ × V3 ℝ)) :
    NearChain none segs ↔ List.IsChain Near (segs.map len) ∧ ∀ s ∈ segs, 0 < len s := by
  cases segs with
  | nil => simp [NearChain]
  | cons a r => simp only [NearChain, nearChain_some_iff, List.map_cons, List.forall_mem_cons]; tauto

/-- **two-sided taper**: every segment of an accepted taper from both ends has positive length, and neighbouring segments
differ by at most the factor 2.1 — exactly 2 while the lengths double from either end, below `2 + eps/previous` where the
doubling meets the run of equal segments in the middle, 1 inside that run -/
theorem C13_taper2_near (p1 p2 : V3 ℝ) (n : Nat) (r minT : ℝ) (maxT : Option ℝ) (c25 : ℝ)
    (segs : List (V3 ℝ × V3 ℝ)) (hl : 0 < V3.norm (p2 - p1))
    (h : taper2 p1 p2 n r minT maxT c25 = .ok segs) : NearChain none segs := by
  obtain ⟨m, eps, -, hm, heps, hshape⟩ := taper2_lengths hl h
  exact (nearChain_none_iff segs).mpr
    ⟨hshape.isChain hm heps, fun s hs => hshape.pos hm _ (List.mem_map_of_mem hs)⟩

/-- the same as a condition on neighbouring segments of the list -/
theorem C13_taper2_chain (p1 p2 : V3 ℝ) (n : Nat) (r minT : ℝ) (maxT : Option ℝ) (c25 : ℝ)
    (segs : List (V3 ℝ × V3 ℝ)) (hl : 0 < V3.norm (p2 - p1))
    (h : taper2 p1 p2 n r minT maxT c25 = .ok segs) :
    List.IsChain (fun x y => Near (len x) (len y)) segs ∧ ∀ s ∈ segs, 0 < len s := by
  obtain ⟨hc, hp⟩ := (nearChain_none_iff segs).mp (C13_taper2_near p1 p2 n r minT maxT c25 segs hl h)
  exact ⟨(List.isChain_map len).mp hc, hp⟩

end Pmn.Props.C13c
