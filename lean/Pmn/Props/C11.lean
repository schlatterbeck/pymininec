/-
C11 — real ground changes only the far field, consistently with its limits.

Over ℝ for `Pmn.Model.Far`: the medium looked up for a reflection point is unchanged when a medium (other than a
first medium with radials) is split into adjacent pieces with identical constants, and when a further medium is
appended beyond every reflection point; with vanishing surface impedance the real-ground image term *is* the
ideal-ground one, and the modulus of that impedance, `(ε² + (σ/t)²)^(-1/4)`, tends to 0 as σ → ∞.
That the matrix, right-hand side, currents and near field do not depend on the media constants is
established on the implementation (bit-identical results for different media, and an AST scan of
the uses of `self.media`), see harness/c11.py.
-/
import Pmn.Proofs.CxC
import Mathlib.Analysis.SpecialFunctions.Sqrt
import Mathlib.Topology.Algebra.Order.Field

namespace Pmn.Props.C11
open Pmn.Far Pmn.CxC

/-- constants of the medium found for the reflection point `b9` -/
noncomputable def lookupM (media : List (MediumF ℝ)) (b9 : ℝ) : Option (Cx ℝ × ℝ) :=
  (media[mediumIndex (media.map (·.coord)) b9]?).map fun m => (m.z, m.height)

/-- the medium found is the first whose outer boundary is not exceeded, or else the first of all -/
theorem lookupM_eq_find (media : List (MediumF ℝ)) (b9 : ℝ) :
    lookupM media b9
      = ((media.find? fun m => !decide (m.coord < b9)).or media[0]?).map fun m => (m.z, m.height) := by
  unfold lookupM mediumIndex
  simp only [List.findIdx?_map, Function.comp_def, List.find?_eq_bind_findIdx?_getElem?]
  cases h : media.findIdx? fun m => !decide (m.coord < b9) with
  | none => rfl
  | some i =>
    have hi : i < media.length := (List.findIdx?_eq_some_iff_findIdx_eq.mp h).1
    simp only [Option.bind_some, List.getElem?_eq_getElem hi, Option.some_or]

/-- **appending a medium beyond every reflection point**: the last medium's outer boundary becomes
`U` and a further medium follows; for every reflection point with `b9 ≤ U` the medium found is
the same -/
theorem C11_beyond (pre : List (MediumF ℝ)) (last new : MediumF ℝ) (U b9 : ℝ)
    (hb : b9 ≤ U) (hbig : b9 ≤ last.coord) :
    lookupM (pre ++ [{ last with coord := U }, new]) b9 = lookupM (pre ++ [last]) b9 := by
  rw [lookupM_eq_find, lookupM_eq_find, List.find?_append, List.find?_append,
    List.find?_cons_of_pos (by simpa using hb), List.find?_cons_of_pos (by simpa using hbig)]
  cases pre.find? fun m => !decide (m.coord < b9) <;> rfl

/-- **splitting a medium**: medium `m` (not the first, or no radials — the radial screen acts on
index 0 only) is replaced by two adjacent pieces with the same constants and height, the inner one
ending at `u ≤ m.coord`; the constants found for any reflection point are the same -/
theorem C11_split (pre post : List (MediumF ℝ)) (m : MediumF ℝ) (u b9 : ℝ) (hu : u ≤ m.coord)
    (hfound : ∃ i, ((pre ++ m :: post).map (·.coord)).findIdx? (fun c => !(decide (c < b9))) = some i) :
    lookupM (pre ++ { m with coord := u } :: m :: post) b9 = lookupM (pre ++ m :: post) b9 := by
  have h0 : (pre ++ { m with coord := u } :: m :: post)[0]?.map (fun m => (m.z, m.height))
      = (pre ++ m :: post)[0]?.map (fun m => (m.z, m.height)) := by cases pre <;> rfl
  simp only [lookupM_eq_find, Option.map_or, h0, List.find?_append, List.find?_cons]
  by_cases hm : m.coord < b9
  · -- beyond m: both pieces are passed
    have hu' : u < b9 := lt_of_le_of_lt hu hm
    simp only [hm, hu', decide_true, Bool.not_true]
  · -- m or its inner piece is found: the same constants
    by_cases hu' : u < b9 <;> simp [hm, hu']

theorem csqrt_one : csqrt (cxOne : Cx ℝ) = cxOne := by
  unfold csqrt cxOne
  simp [HasSqrt.sqrt]

theorem mediumIndex_singleton (c b : ℝ) : mediumIndex [c] b = 0 := by
  unfold mediumIndex
  by_cases hb : c < b <;> simp [List.findIdx?_cons, hb]

theorem fresnel_zero (a b : Cx ℝ) (ha : toC a ≠ 0) : (a - b * ⟨0, 0⟩) / (a + b * ⟨0, 0⟩) = cxOne := by
  apply toC_inj
  simp only [to_complex, mul_zero, zero_mul, add_zero, sub_zero]
  exact div_self ha

/-- **vanishing surface impedance**: with `z = 0`, height 0 and no radial screen the image term of
the real-ground formula equals the ideal-ground image term, at every elevation above grazing
(`cos θ ≠ 0`) -/
theorem C11_limit_value (w t p : ℝ) (c : Bool) (coord : ℝ) (pt : V3 ℝ) (h : Half ℝ) (cur : Cx ℝ)
    (hct : Real.cos t ≠ 0) (hg : h.gnd = false) (hi : h.inv = false) :
    halfReal w t p c 0 0 [⟨coord, 0, ⟨0, 0⟩⟩] pt h cur = halfIdeal w t p (-1) false pt h cur := by
  -- a half with `gnd` or `inv` set contributes zero on both sides
  unfold halfReal halfIdeal
  simp only [hg, hi, Bool.or_self, Bool.false_eq_true, if_false, List.map_cons, List.map_nil,
    mediumIndex_singleton, List.getElem?_cons_zero, Option.getD_some, ne_eq, not_true_eq_false, false_and]
  -- `w67 = csqrt 1 = 1`, so both Fresnel quotients are 1: `v89 = 1`, `h89 = 1 − 1`
  have hw : cxOne - Cx.scale (HasTrig.sin t * HasTrig.sin t) ((⟨0, 0⟩ : Cx ℝ) * ⟨0, 0⟩) = cxOne := by
    apply toC_inj
    simp only [to_complex]
    ring
  have hc : toC (cxOfReal (HasTrig.cos t)) ≠ 0 := by rw [toC_ofReal]; exact Complex.ofReal_ne_zero.mpr hct
  have h1 : toC cxOne ≠ 0 := by rw [toC_one]; exact one_ne_zero
  rw [hw, csqrt_one, fresnel_zero _ _ hc, fresnel_zero _ _ h1]
  simp only [Nat.cast_one, Nat.cast_zero, zero_mul]
  apply cv3_toC_ext <;> simp only [to_complex] <;> ring

theorem normSq_csqrt (z : Cx ℝ) : Cx.normSq (csqrt z) = Real.sqrt (Cx.normSq z) := by
  have habs : |z.re| ≤ Real.sqrt (Cx.normSq z) :=
    Real.abs_le_sqrt (by rw [sq]; exact le_add_of_nonneg_right (mul_self_nonneg _))
  have e1 := Real.mul_self_sqrt (show 0 ≤ (Real.sqrt (Cx.normSq z) + z.re) / 2 by linarith [neg_abs_le z.re])
  have e2 := Real.mul_self_sqrt (show 0 ≤ (Real.sqrt (Cx.normSq z) - z.re) / 2 by linarith [le_abs_self z.re])
  have hsign : ∀ b : ℝ,
      (if z.im < ((0 : Nat) : ℝ) then -b else b) * (if z.im < ((0 : Nat) : ℝ) then -b else b) = b * b := by
    intro b; split <;> ring
  -- `csqrt z = (√((r + x)/2), ±√((r − x)/2))`, `r = |z|`, `x = z.re`: the squares add up to `r`
  unfold csqrt
  simp only [HasSqrt.sqrt, Nat.cast_ofNat]
  rw [Cx.normSq, hsign]
  unfold Cx.normSq at e1 e2 ⊢
  rw [e1, e2]
  ring

/-- modulus of the surface impedance: `|Z|² = 1 / sqrt (ε² + (σ/t)²)` -/
theorem C11_surfaceZ_modulus (eps sigma tfac : ℝ) (hpos : 0 < eps * eps + sigma / tfac * (sigma / tfac)) :
    Cx.normSq (surfaceZ eps sigma tfac) = 1 / Real.sqrt (eps * eps + sigma / tfac * (sigma / tfac)) := by
  unfold surfaceZ
  rw [normSq_one_div, normSq_csqrt, Cx.normSq, neg_mul_neg]

/-- **σ → ∞**: the modulus of the surface impedance tends to 0, so the real-ground reflection
coefficients tend to those of ideal ground (`C11_limit_value`) -/
theorem C11_limit (eps tfac : ℝ) (ht : 0 < tfac) :
    Filter.Tendsto (fun sigma : ℝ => 1 / Real.sqrt (eps * eps + sigma / tfac * (sigma / tfac)))
      Filter.atTop (nhds 0) := by
  have hlin : Filter.Tendsto (fun sigma : ℝ => sigma / tfac) Filter.atTop Filter.atTop :=
    Filter.tendsto_id.atTop_div_const ht
  have hsq := Real.tendsto_sqrt_atTop.comp
    (Filter.tendsto_atTop_add_const_left _ (eps * eps) (hlin.atTop_mul_atTop₀ hlin))
  simp only [one_div]
  exact hsq.inv_tendsto_atTop

end Pmn.Props.C11
