/-
C07 — currents are linear in the source voltages; source data are V/I and Re(V·conj I)/2.

`rhsAt` is the right-hand side as `compute_rhs` builds it (assignment semantics: the last source on
a pulse wins); `Z.mulVec I = rhs` is the specification of `np.linalg.solve`.
-/
import Pmn.Proofs.Inst
import Pmn.Proofs.Lin
import Pmn.Props.C10
import Mathlib.Tactic.FieldSimp
import Mathlib.Tactic.Ring

namespace Pmn.Props.C07
open Pmn.Circuit Matrix

theorem rhsEntry_mul (minv : ℂ) (g : Bool) (c v : ℂ) :
    rhsEntry minv g (c * v) = c * rhsEntry minv g v := by
  unfold rhsEntry; ring

theorem rhsEntry_add (minv : ℂ) (g : Bool) (v w : ℂ) :
    rhsEntry minv g (v + w) = rhsEntry minv g v + rhsEntry minv g w := by
  unfold rhsEntry; ring

/-- multiplying all voltages by `c` multiplies the right-hand side by `c` … -/
theorem C07_rhs_scale (minv : ℂ) (g : Nat → Bool) (ps : List Nat) (V : Nat → ℂ) (c : ℂ) (p : Nat) :
    rhsAt minv g ps (fun i => c * V i) p = c * rhsAt minv g ps V p := by
  unfold rhsAt
  cases lastIdx ps p with
  | none => simp
  | some i => simp [rhsEntry_mul]

/-- … and the right-hand side of a sum of voltage vectors (same source pulses, duplicates allowed)
is the sum of the right-hand sides: in particular the rhs of all sources is the sum of the rhs of
each source alone with the others at 0 V -/
theorem C07_rhs_add (minv : ℂ) (g : Nat → Bool) (ps : List Nat) (V W : Nat → ℂ) (p : Nat) :
    rhsAt minv g ps (fun i => V i + W i) p = rhsAt minv g ps V p + rhsAt minv g ps W p := by
  unfold rhsAt
  cases lastIdx ps p with
  | none => simp
  | some i => simp [rhsEntry_add]

/-- decomposition into single sources: `V = Σ_k V_k·δ_k` -/
theorem C07_rhs_superpose (minv : ℂ) (g : Nat → Bool) (ps : List Nat) (V : Nat → ℂ) (p : Nat) :
    rhsAt minv g ps V p
      = ((List.range ps.length).map fun k =>
          rhsAt minv g ps (fun i => if i = k then V i else 0) p).sum := by
  unfold rhsAt
  cases h : lastIdx ps p with
  | none => simp
  | some i =>
    have hi : i < ps.length := by simpa [lastIdx] using List.mem_of_find?_eq_some h
    have h0 : rhsEntry minv (g p) 0 = 0 := by simp [rhsEntry]
    -- the `k`-th summand is the entry for `k = i` and `rhsEntry 0 = 0` otherwise
    simp [apply_ite (rhsEntry minv (g p)), h0, eq_comm (a := i), List.sum_map_ite_eq, hi]

variable {n : Type} [Fintype n] [DecidableEq n]

/-- **linearity of the solution**: scaling the right-hand side scales the solution; the solution
is unique, so `solve Z (c·b) = c · solve Z b` -/
theorem C07_solve_scale (Z : Matrix n n ℂ) (hZ : IsUnit Z.det) (I I' b : n → ℂ) (c : ℂ)
    (h : Z *ᵥ I = b) (h' : Z *ᵥ I' = c • b) : I' = c • I := by
  apply Pmn.Lin.mulVec_injective hZ
  rw [h', Matrix.mulVec_smul, h]

/-- **superposition**: the response to `b₁ + b₂` is the sum of the responses -/
theorem C07_solve_add (Z : Matrix n n ℂ) (hZ : IsUnit Z.det) (I₁ I₂ I b₁ b₂ : n → ℂ)
    (h₁ : Z *ᵥ I₁ = b₁) (h₂ : Z *ᵥ I₂ = b₂) (h : Z *ᵥ I = b₁ + b₂) : I = I₁ + I₂ := by
  apply Pmn.Lin.mulVec_injective hZ
  rw [h, Matrix.mulVec_add, h₁, h₂]

/-- scaling all voltages leaves every source impedance unchanged -/
theorem C07_impedance_scale (v i c : ℂ) (hc : c ≠ 0) (hi : i ≠ 0) :
    srcImpedance (c * v) (c * i) = srcImpedance v i :=
  mul_div_mul_left v i hc

/-- source power is `Re (V·conj I)/2` and scales with `|c|²` — the same factor by which the
radiated power density (quadratic in the currents) scales, so the dBi pattern is unchanged -/
theorem C07_power_scale (v i c : ℂ) :
    (srcPower (c * v) (c * i) : ℝ) = Complex.normSq c * srcPower v i := by
  unfold srcPower
  simp only [HasConjRe.re, HasConjRe.conj, map_mul]
  rw [mul_mul_mul_comm, Complex.mul_conj, Complex.re_ofReal_mul, mul_div_assoc]

/-- **the dBi pattern does not depend on the excitation level**: with every pulse current multiplied by `c` (the
response to voltages multiplied by `c`, `C07_solve_scale`) and the power multiplied by `|c|²` (`C07_power_scale`),
the three linear gains of every direction — far-field model of C10 in free space, over ideal and over real ground —
are unchanged -/
theorem C07_pattern_scale (env : Pmn.Far.Env ℝ) (w t p k9c g0 power : ℝ) (ps : List (Pmn.Far.PulseF ℝ))
    (I : List (Cx ℝ)) (c : Cx ℝ) (hI : I.length = ps.length) (hc : Cx.normSq c ≠ 0) (hP : power ≠ 0) :
    Pmn.Far.linGains k9c (Cx.normSq c * power)
        (Pmn.Far.h12 g0 (Pmn.Far.gvec env w t p ps (I.map (fun i => c * i))) t p)
        (Pmn.Far.x34 g0 (Pmn.Far.gvec env w t p ps (I.map (fun i => c * i))) p)
      = Pmn.Far.linGains k9c power (Pmn.Far.h12 g0 (Pmn.Far.gvec env w t p ps I) t p)
          (Pmn.Far.x34 g0 (Pmn.Far.gvec env w t p ps I) p) := by
  rw [Pmn.Props.C10.gvec_smul env w t p ps I c]
  exact Pmn.Props.C10.C10_pattern_scale k9c g0 power t p _ c hc hP

/-- the reported source power is `½ Re (V conj I)` -/
theorem C07_power_def (v i : ℂ) :
    (srcPower v i : ℝ) = (v.re * i.re + v.im * i.im) / 2 := by
  unfold srcPower
  simp [HasConjRe.re, HasConjRe.conj, Complex.mul_re]

/-! two sources on pulses 1 and 3, the second listed twice (last value wins) -/
example : lastIdx [1, 3, 3] 3 = some 2 ∧ lastIdx [1, 3, 3] 1 = some 0 ∧ lastIdx [1, 3, 3] 2 = none := by
  decide

end Pmn.Props.C07
