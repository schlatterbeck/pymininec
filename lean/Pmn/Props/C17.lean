/-
C17 — pulse addressing: sources and loads act on exactly the pulse the user named.

`resolveAbs`, `resolveRel`, `resolveAll` transcribe `register_source` / `register_load`;
the geometry table prints pulse `i` (0-based index) with number `i + 1` in the block of its owner,
blocks in processing order, which is increasing tag order (`sortByTag`).
-/
import Pmn.Model.Cmd
import Pmn.Props.C12
import Pmn.Proofs.ListLemmas
import Pmn.Proofs.InsertSort
import Mathlib.Data.Nat.Basic

namespace Pmn.Props.C17
open Pmn.Topo Pmn.ListLemmas Pmn.Props.C12

/-- absolute addressing: number `k+1` (0-based `k`) resolves to the pulse with index `k`, i.e. the
one printed with number `k+1`; anything outside `1 … N` is rejected -/
theorem C17_abs (st : State) (k : Nat) (h : k < st.pulses.length) :
    resolveAbs st (k : Int) = .ok k := by
  unfold resolveAbs
  rw [if_neg (by omega), if_neg (by simp; omega)]
  simp

theorem C17_abs_reject (st : State) (k : Int) (h : k < 0 ∨ (st.pulses.length : Int) ≤ k) :
    ∃ e, resolveAbs st k = .error e := by
  unfold resolveAbs
  split_ifs
  · exact ⟨_, rfl⟩
  · exact ⟨_, rfl⟩
  · omega

/-- per-object addressing: `(k, t)` resolves to row `k` of the block of the object whose tag is
`t` — the pulse `start + k` of that object, with `k` below the object's pulse count -/
theorem C17_rel (st : State) (otags : List Nat) (k : Nat) (t p : Nat)
    (h : resolveRel st otags (k : Int) t = .ok p) :
    ∃ j ob, otags.idxOf? t = some j ∧ st.objs[j]? = some ob ∧ k < ob.count ∧ p = ob.start + k := by
  unfold resolveRel at h
  rw [if_neg (by omega), Int.toNat_natCast] at h
  split at h
  · cases h
  rename_i j hj
  split at h
  · rename_i q hq
    cases h
    unfold pulsesOf at hq
    split at hq
    · rename_i ob ho
      obtain ⟨hlt, rfl⟩ := List.getElem?_eq_some_iff.mp hq
      exact ⟨j, ob, hj, ho, by simpa using hlt, by simp [Nat.add_comm]⟩
    · cases hq
  · cases h

/-- both addressing forms denote the same pulse whenever they name the same table row: the
per-object form `(k, t)` and the absolute number `start + k` resolve to the same index, so every
quantity computed from it is identical -/
theorem C17_equiv (st : State) (otags : List Nat) (k t p : Nat)
    (h : resolveRel st otags (k : Int) t = .ok p) (hp : p < st.pulses.length) :
    resolveAbs st (p : Int) = .ok p := C17_abs st p hp

theorem pulsesOf_flat (objs : List Obj) :
    (List.range objs.length).flatMap (pulsesOf objs) = blocks objs := by
  rw [blocks, ← flatMap_range_getElem? objs]
  congr 1; funext k
  unfold pulsesOf
  cases objs[k]? <;> rfl

/-- attaching a load to *all* pulses of the antenna attaches every pulse `0 … N−1` exactly once -/
theorem C17_all_once (os : List ObjIn) (st : State) (otags : List Nat) (h : build os = .ok st) :
    resolveAll st otags none = .ok (List.range st.pulses.length) := by
  unfold resolveAll
  rw [pulsesOf_flat, C12_numbering os st h]

/-- attaching a load to all pulses of one object attaches exactly the pulses of its block, each
once (consecutive numbers `start … start + count − 1`) -/
theorem C17_all_of_object (st : State) (otags : List Nat) (t : Nat) (l : List Nat)
    (h : resolveAll st otags (some t) = .ok l) :
    l.Nodup ∧ ∃ j, otags.idxOf? t = some j ∧ l = pulsesOf st.objs j := by
  simp only [resolveAll] at h
  split at h
  · cases h
  rename_i j hj
  cases h
  refine ⟨?_, j, hj, rfl⟩
  unfold pulsesOf
  split
  · exact List.pairwise_map.mpr (List.nodup_range.imp fun h => by omega)
  · exact List.nodup_nil

/-- a junction pulse is listed in the block of the later-processed (= later-tagged) of the two
objects it joins: its owner is the creating object `n`, the other object is earlier -/
theorem C17_junction_owner (n : Nat) (o : ObjIn) (n2 other : Nat) (hg : o.g0 = false)
    (hh : o.h0 = some (n2, other)) (hlt : other < n) :
    ∀ p ∈ firstPulses n o, p.owner = n ∧ p.geo0 = other ∧ p.geo1 = n ∧ p.geo0 < p.owner := by
  intro p hp
  rw [C12_joint_first n o n2 other hg hh hlt] at hp
  simp at hp
  subst hp
  exact ⟨rfl, rfl, rfl, hlt⟩

/-- the tags `assignTags.go` hands out: an explicit tag is kept, the `k`-th automatic one is `next + k` -/
theorem go_getElem? (ts : List (Option Nat)) (next i : Nat) :
    (assignTags.go ts next)[i]? = ts[i]?.map fun x => x.getD (next + (ts.take (i + 1)).count none) := by
  induction ts generalizing next i with
  | nil => simp [assignTags.go]
  | cons a r ih =>
    cases i with
    | zero => cases a <;> simp [assignTags.go]
    | succ i =>
      cases a with
      | none =>
        simp only [assignTags.go, List.getElem?_cons_succ, ih, List.take_succ_cons, List.count_cons_self]
        congr; funext x; congr 1; omega
      | some t => simp [assignTags.go, ih]

theorem go_length (ts : List (Option Nat)) (next : Nat) : (assignTags.go ts next).length = ts.length := by
  induction ts generalizing next with
  | nil => simp [assignTags.go]
  | cons t r ih => cases t <;> simp [assignTags.go, ih]

/-- automatic tags are larger than the start value (which is the largest explicit tag) -/
theorem go_auto (ts : List (Option Nat)) (next i : Nat) (h : ts[i]? = some none) :
    ∃ t, (assignTags.go ts next)[i]? = some t ∧ next < t := by
  have hpos : 0 < (ts.take (i + 1)).count none :=
    List.count_pos_iff.mpr (List.mem_iff_getElem?.mpr ⟨i, by rw [List.getElem?_take_of_lt i.lt_succ_self, h]⟩)
  exact ⟨_, by rw [go_getElem?, h]; rfl, Nat.lt_add_of_pos_right hpos⟩

/-- every object keeps its explicit tag; the result has one tag per object -/
theorem C17_tags_explicit (tags : List (Option Nat)) (res : List Nat) (h : assignTags tags = .ok res)
    (i t : Nat) (hi : tags[i]? = some (some t)) : res[i]? = some t ∧ res.length = tags.length := by
  simp only [assignTags] at h
  split_ifs at h
  cases h
  exact ⟨by rw [go_getElem?, hi]; rfl, go_length _ _⟩

theorem sortByTag_eq (tags : List Nat) : sortByTag tags = InsertSort.insAll (·.1) tags.zipIdx [] := by
  have h : ∀ x acc, insertByTag x acc = InsertSort.ins (·.1) x acc := fun x acc => by
    induction acc with
    | nil => rfl
    | cons d r ih => simp only [insertByTag, InsertSort.ins, ih]
  simp only [sortByTag, InsertSort.insAll, h]

/-- processing order: a rearrangement of the objects, in non-decreasing (hence, tags being
distinct, increasing) tag order -/
theorem C17_order (tags : List Nat) :
    (sortByTag tags).Perm tags.zipIdx ∧ (sortByTag tags).Pairwise (fun a b => a.1 ≤ b.1) := by
  rw [sortByTag_eq]
  exact ⟨by simpa using InsertSort.insAll_perm (·.1) tags.zipIdx [],
    InsertSort.insAll_sorted _ _ List.Pairwise.nil⟩

example : (assignTags [some 7, none, some 3, none]).toOption = some [7, 8, 3, 9] := by decide
example : (sortByTag [7, 8, 3, 9]).map (·.2) = [2, 0, 1, 3] := by decide

/-! ### the fields of `--attach-load` / `--excitation-pulse` -/

section Fields
open Pmn.Cmd

/-- what `register_load` is called with for an attachment -/
def attArgs : Att → Option Int × Option Int
  | .pulse k => (some ((k : Int) - 1), none)
  | .rel k t => (some ((k : Int) - 1), some (t : Int))
  | .allObj t => (none, some (t : Int))
  | .all => (none, none)

/-- **the attachments the writer emits are read as written**: load `i` of `n`, pulse `k` (1-based) or all, optional tag -/
theorem C17_attach_parse (n i : Nat) (a : Att) (h1 : 1 ≤ i) (hn : i ≤ n) :
    parseAttach n (showAttach i a) = .ok (i - 1, attArgs a) := by
  have hlt : ¬ ((i : Int) < 1 ∨ (n : Int) < (i : Int)) := by omega
  have hnat : ((i : Int) - 1).toNat = i - 1 := by omega
  cases a <;> simp only [showAttach, parseAttach, Fld.int?, attArgs, if_neg hlt, hnat]

/-- **the keyword `all` stands for "every pulse" and nothing else**: as the load number or as the tag it is refused -/
theorem C17_attach_keyword (n : Nat) (p t : Fld) :
    (∃ e, parseAttach n [.all, p] = .error e) ∧ (∃ e, parseAttach n [.all, p, t] = .error e) ∧
    (∀ l, ∃ e, parseAttach n [l, p, .all] = .error e) := by
  refine ⟨⟨_, rfl⟩, ⟨_, rfl⟩, ?_⟩
  intro l
  cases l with
  | int lv =>
    cases p <;> simp [parseAttach, Fld.int?]
  | all => exact ⟨_, rfl⟩
  | junk => exact ⟨_, rfl⟩

/-- accepting the keyword in every field (`parseAttachLax`) lets it through as a load number (then `None - 1`) -/
theorem C17_attach_keyword_defect_witness :
    parseAttachLax [.all, .int 3] = true ∧ ∃ e, parseAttach 1 [.all, .int 3] = .error e := ⟨rfl, _, rfl⟩

theorem C17_excitation_parse (p t : Int) :
    parseExcitation [.int p] = .ok (p - 1, none) ∧ parseExcitation [.int p, .int t] = .ok (p - 1, some t) := ⟨rfl, rfl⟩

end Fields

end Pmn.Props.C17
