/-
C01 — power balance.

What is a theorem here is the exact bookkeeping of the solved system; the 1.5 % agreement of the
integrated far field with it is a numerical property of the pulse-basis moment method and is
evaluated on the implementation (harness/c01.py).

The system matrix is `Z0 + diag (c_p · Z_L,p)` and the right-hand side `c_p · V_p` (in the code `c_p = −j g_p / m`,
`g_p = 2` for grounded pulses over ground, else 1 — the same weight on load and excitation); then (`C01_split`)

    Σ_p ½ Re (V_p conj I_p) = Σ_p ½ Re (Z_L,p) |I_p|²  +  Σ_p ½ Re ((Z0 I)_p / c_p · conj I_p)

for the solved currents.  A wrong load weight, or a weight on the load that differs from the one on the
excitation, breaks this identity (not a tolerance): the harness evaluates both sides on `Mininec.Z`, `rhs`,
`current`, the loads.
-/
import Pmn.Model.Const
import Mathlib.LinearAlgebra.Matrix.NonsingularInverse
import Mathlib.Data.Complex.Basic
import Mathlib.Tactic.Ring
import Mathlib.Tactic.NormNum
import Mathlib.Tactic.LinearCombination

namespace Pmn.Props.C01
open ComplexConjugate

variable {n : Type} [Fintype n]

/-- **source power = load dissipation + power taken by the unloaded structure** -/
theorem C01_split (Z0 : Matrix n n ℂ) (ZL c V I : n → ℂ) (hc : ∀ p, c p ≠ 0)
    (h : ∀ p, (Z0.mulVec I) p + c p * ZL p * I p = c p * V p) :
    ∑ p, (V p * conj (I p)).re / 2
      = ∑ p, (ZL p).re * Complex.normSq (I p) / 2 + ∑ p, ((Z0.mulVec I) p / c p * conj (I p)).re / 2 := by
  rw [← Finset.sum_add_distrib]
  refine Finset.sum_congr rfl fun p _ => ?_
  have hV : (Z0.mulVec I) p / c p = V p - ZL p * I p := by
    rw [div_eq_iff (hc p)]
    linear_combination h p
  rw [hV, sub_mul, Complex.sub_re, mul_assoc (ZL p), Complex.mul_conj, Complex.re_mul_ofReal]
  ring

theorem div_weight (x g m : ℂ) : x / (-Complex.I * g / m) = Complex.I * m * x / g := by
  rw [div_div_eq_mul_div, neg_mul, div_neg, mul_comm Complex.I g, ← div_div, Complex.div_I]
  ring

/-- the code's weights: `c_p = −j g_p / m` with `m ≠ 0`, `g_p ∈ {1, 2}`; then
`(Z0 I)_p / c_p = j m (Z0 I)_p / g_p` -/
theorem C01_split_weights (Z0 : Matrix n n ℂ) (ZL V I : n → ℂ) (g : n → ℂ) (m : ℂ) (hm : m ≠ 0)
    (hg : ∀ p, g p ≠ 0)
    (h : ∀ p, (Z0.mulVec I) p + (-Complex.I * g p / m) * ZL p * I p = (-Complex.I * g p / m) * V p) :
    ∑ p, (V p * conj (I p)).re / 2
      = ∑ p, (ZL p).re * Complex.normSq (I p) / 2
        + ∑ p, (Complex.I * m * (Z0.mulVec I) p / g p * conj (I p)).re / 2 := by
  have hc : ∀ p, (-Complex.I * g p / m) ≠ 0 := fun p =>
    div_ne_zero (mul_ne_zero (neg_ne_zero.mpr Complex.I_ne_zero) (hg p)) hm
  simp only [C01_split Z0 ZL (fun p => -Complex.I * g p / m) V I hc h, div_weight]

/-- a one-pulse system `z0 I + c zl I = c v` -/
example : ∃ (Z0 : Matrix (Fin 1) (Fin 1) ℂ) (ZL c V I : Fin 1 → ℂ), (∀ p, c p ≠ 0) ∧
    ∀ p, (Z0.mulVec I) p + c p * ZL p * I p = c p * V p :=
  ⟨!![1], fun _ => 1, fun _ => 1, fun _ => 2, fun _ => 1, by simp, by
    intro p; simp [Matrix.mulVec, dotProduct]; norm_num⟩

/-- the real power of a source, `Excitation.power = ½ Re (V conj I)`, written with real and
imaginary parts as the code does (`.5 * (V.real * I.real + V.imag * I.imag)`) -/
theorem C01_real_source_power (V I : ℂ) : (V * conj I).re / 2 = (V.re * I.re + V.im * I.im) / 2 := by
  simp [Complex.mul_re]

/-- **the gain constants are consistent**: with `gain = k9c |E r|² / P` and `E r = g0 · (…)` an
isotropic radiator has gain `2 k9c g0 = 1` (to 2e-5, the precision of the source constants) -/
theorem C01_norm :
    |2 * ((Pmn.Const.k9Factor.num : ℚ) / Pmn.Const.k9Factor.den) * ((Pmn.Const.g0.num : ℚ) / Pmn.Const.g0.den) - 1|
      < 2 / 100000 := by
  simp only [Pmn.Const.k9Factor, Pmn.Const.g0]; norm_num

end Pmn.Props.C01
