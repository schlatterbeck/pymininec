/-
C15 (continued), media: the media the option file describes are the media of the model.

`main` turns the `--medium` options (with `--boundary`, `--radial-count`, `--radial-radius`) into a linked list of
`Medium` objects (`Pmn.Cmd.readMedia`); `Medium.as_cmdline` writes them back (`Pmn.Cmd.writeMedia`).  Reading what was
written for an accepted list gives the same list, up to the boundary type of a single medium; the rule before the repair
51d80cd (`linkOld`) is refuted by a witness.
-/
import Pmn.Model.Cmd

namespace Pmn.Props.C15d
open Pmn.Cmd

/-- exactly what the checks of `mkMedium` (those of `main` and `Medium.__init__`) leave true of the medium it builds:
implied by them (`made_of_mkMedium`) and enough to pass them again (`mkMedium_of_made`) -/
structure Made (first : Bool) (m : Medium) : Prop where
  firstHeight : first = true → m.height = 0
  restRadials : first = false → m.nradials = 0
  radius : m.radius = 0 ↔ m.nradials = 0
  idealRadials : m.ideal = true → m.nradials = 0
  idealHeight : m.ideal = true → m.height = 0
  sigma : m.eps ≠ 0 → m.sigma ≠ 0
  circular : m.nradials ≠ 0 → m.circular = true

theorem made_of_mkMedium (inf : Nat) (g : MediaOpts) (first : Bool) (o : MedOpt) (m : Medium)
    (h : mkMedium inf g first o = .ok m) : Made first m := by
  unfold mkMedium at h
  -- the cases the two radius checks tell apart
  have hr : g.radRadius = none ∨ g.radRadius = some 0 ∨ g.radRadius.getD 0 ≠ 0 := by
    rcases g.radRadius with _ | _ | r <;> simp
  grind [Medium.ideal, Made]

theorem mkMedium_of_made (inf : Nat) (g : MediaOpts) (first : Bool) (m : Medium) (hm : Made first m) (co : Option Nat)
    (h1 : first = true → g.radCount = m.nradials)
    (h2 : first = true → g.radRadius = if m.nradials ≠ 0 then some m.radius else none) :
    mkMedium inf g first ⟨m.eps, m.sigma, m.height, co⟩
      = .ok { m with coord := if m.ideal then 0 else co.getD inf, circular := g.circular || m.nradials ≠ 0 } := by
  unfold mkMedium
  grind [Medium.ideal, Made]

theorem ideal_with (m : Medium) (co : Nat) (ci : Bool) :
    ({ m with coord := co, circular := ci } : Medium).ideal = m.ideal := rfl

theorem made_of_mkRest (inf : Nat) (g : MediaOpts) (os : List MedOpt) (r : List Medium)
    (h : mkRest inf g os = .ok r) : ∀ m ∈ r, Made false m := by
  induction os generalizing r with
  | nil => cases h; simp
  | cons o os ih =>
    simp only [mkRest] at h
    split at h
    · cases h
    · split at h
      · cases h
      · cases h
        simp only [List.mem_cons, forall_eq_or_imp]
        exact ⟨made_of_mkMedium inf g false o _ ‹_›, ih _ ‹_›⟩

theorem linkAux_single_ok {inf : Nat} {c : Bool} {m : Medium} {t : List Medium} (h : linkAux inf c [m] = .ok t) :
    m.nradials = 0 ∧ t = [{ m with circular := c, coord := inf }] := by
  simp only [linkAux] at h
  split at h
  · cases h
  · cases h
    exact ⟨Decidable.of_not_not ‹_›, rfl⟩

theorem linkAux_cons_ok {inf : Nat} {c : Bool} {m m2 : Medium} {r t : List Medium}
    (h : linkAux inf c (m :: m2 :: r) = .ok t) :
    m.ideal = false ∧ ∃ t2, linkAux inf c (m2 :: r) = .ok t2 ∧ t = { m with circular := c } :: t2 := by
  simp only [linkAux] at h
  split at h
  · cases h
  · split at h
    · cases h
    · cases h
      exact ⟨Bool.eq_false_iff.mpr ‹_›, _, ‹_›, rfl⟩

/-- `x :: xs` and `y :: ys` only say that `t` and the rebuilt list are non-empty: in the induction step that sends
`writeMedOpts` and `linkAux` into their cons branch -/
theorem tail_roundtrip (inf : Nat) (g : MediaOpts) (c : Bool) (m : Medium) (r t : List Medium)
    (hm : Made false m) (hr : ∀ x ∈ r, Made false x) (h : linkAux inf c (m :: r) = .ok t) :
    ∃ x xs y ys, t = x :: xs ∧ mkRest inf g (writeMedOpts t) = .ok (y :: ys) ∧ linkAux inf c (y :: ys) = .ok t := by
  induction r generalizing m t with
  | nil =>
    obtain ⟨hn, rfl⟩ := linkAux_single_ok h
    exact ⟨_, _, _, _, rfl,
      by simp only [writeMedOpts, mkRest, mkMedium_of_made inf g false m hm none nofun nofun]; rfl,
      by simp [linkAux, hn]⟩
  | cons m2 r2 ih =>
    simp only [List.mem_cons, forall_eq_or_imp] at hr
    obtain ⟨hid, t2, h2, rfl⟩ := linkAux_cons_ok h
    obtain ⟨x, xs, y, ys, rfl, hmk, hlk⟩ := ih m2 t2 hr.1 hr.2 h2
    exact ⟨_, _, _, _, rfl,
      by simp only [writeMedOpts, mkRest, mkMedium_of_made inf g false m hm (some m.coord) nofun nofun, hmk]; rfl,
      by simp [linkAux, ideal_with, hid, hlk]⟩

theorem readMedia_ok (inf : Nat) (g : MediaOpts) (ms : List Medium) (h : readMedia inf g = .ok ms) :
    ms = [] ∨ ∃ o os f r, mkMedium inf g true o = .ok f ∧ mkRest inf g os = .ok r ∧
      linkAux inf f.circular (f :: r) = .ok ms := by
  unfold readMedia readMediaWith at h
  split at h
  · cases h; exact .inl rfl
  · split at h
    · cases h
    · split at h
      · cases h
      · exact .inr ⟨_, _, _, _, ‹_›, ‹_›, h⟩

theorem readMediaWith_cons (lk : List Medium → Except String (List Medium)) (inf : Nat) (g : MediaOpts)
    (o : MedOpt) (os : List MedOpt) (f : Medium) (r : List Medium) (hm : g.media = o :: os)
    (hf : mkMedium inf g true o = .ok f) (hr : mkRest inf g os = .ok r) : readMediaWith lk inf g = lk (f :: r) := by
  simp [readMediaWith, hm, hf, hr]

/-- **media round trip**: for every media list the program accepts, the options written for it are accepted and
describe the same media — same constants, heights, coordinates (the last medium extending to infinity), radials and
boundary type (a single medium has no boundary: its boundary type is not written and reads back as the default) -/
theorem C15_media (inf : Nat) (g : MediaOpts) (ms : List Medium) (h : readMedia inf g = .ok ms) :
    readMedia inf (writeMedia ms) = .ok (normBoundary ms) := by
  obtain rfl | ⟨o, os, f, r, hf, hr, h⟩ := readMedia_ok inf g ms h
  · rfl
  have hmf := made_of_mkMedium inf g true o f hf
  have hmr := made_of_mkRest inf g os r hr
  cases r with
  | nil =>
    obtain ⟨hn, rfl⟩ := linkAux_single_ok h
    rw [readMedia, readMediaWith_cons (link inf) inf _ _ _ _ _ rfl
      (mkMedium_of_made inf _ true f hmf none (fun _ => rfl) (fun _ => rfl)) rfl]
    simp [link, linkAux, normBoundary, hn, writeMedia]
  | cons m2 r2 =>
    obtain ⟨hid, t2, h2, rfl⟩ := linkAux_cons_ok h
    simp only [List.mem_cons, forall_eq_or_imp] at hmr
    obtain ⟨x, xs, y, ys, rfl, hmk, hlk⟩ :=
      tail_roundtrip inf (writeMedia (f :: t2)) f.circular m2 r2 t2 hmr.1 hmr.2 h2
    rw [readMedia, readMediaWith_cons (link inf) inf _ _ _ _ _ rfl
      (mkMedium_of_made inf _ true f hmf (some f.coord) (fun _ => rfl) (fun _ => rfl)) hmk]
    -- a first medium with radials has the circular boundary already, so the boundary type read back is its own
    have hc : (f.circular || !decide (f.nradials = 0)) = f.circular := by
      by_cases hn : f.nradials = 0
      · simp [hn]
      · simp [hmf.circular hn]
    simp [link, linkAux, writeMedia, hid, hc, hlk, normBoundary]

/-- writing the options of the re-read media gives the same options -/
theorem C15_media_second (ms : List Medium) : writeMedia (normBoundary ms) = writeMedia ms := by
  match ms with
  | [] => rfl
  | [m] => rfl
  | _ :: _ :: _ => rfl

/-- the options written for the re-read media are read back as the same media once more -/
theorem C15_media_stable (inf : Nat) (g : MediaOpts) (ms : List Medium) (h : readMedia inf g = .ok ms) :
    readMedia inf (writeMedia (normBoundary ms)) = .ok (normBoundary ms) := by
  rw [C15_media_second]; exact C15_media inf g ms h

/-- with several media nothing is lost: the re-read list is the list itself -/
theorem C15_media_several (inf : Nat) (g : MediaOpts) (a b : Medium) (r : List Medium)
    (h : readMedia inf g = .ok (a :: b :: r)) : readMedia inf (writeMedia (a :: b :: r)) = .ok (a :: b :: r) :=
  C15_media inf g _ h

/-- the rule before the repair 51d80cd: a coordinate given for the last of two media stayed in the model and is not
written, the re-read model differs (`50` vs the default `99`) -/
theorem C15_media_defect_witness :
    ∃ ms, readMediaWith (linkOld 99) 99 ⟨[⟨13, 7, 0, some 10⟩, ⟨5, 8, 3, some 50⟩], false, 0, none⟩ = .ok ms ∧
      readMediaWith (linkOld 99) 99 (writeMedia ms) ≠ .ok ms :=
  ⟨_, rfl, fun h => absurd (Except.ok.inj h) (by decide)⟩

-- accepted: three media, radials on the first, ideal ground last
example : ∃ ms, readMedia 99 ⟨[⟨13, 7, 0, some 10⟩, ⟨5, 8, 3, some 50⟩, ⟨0, 0, 0, some 4⟩], false, 4, some 2⟩ = .ok ms ∧
    ms.length = 3 := ⟨_, rfl, rfl⟩

end Pmn.Props.C15d
