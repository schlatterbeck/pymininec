/-
C12 — number and placement of current unknowns follow from the wire topology.

Theorems about `Pmn.Topo.build` for *every* list of objects (any number, any segment counts,
any hits): pulse count formula, gap-free numbering in object order, ownership.
-/
import Pmn.Proofs.TopoLemmas
import Pmn.Model.Const
import Mathlib.Order.Defs.LinearOrder
import Mathlib.Order.Basic

namespace Pmn.Props.C12
open Pmn.Topo Pmn.TopoLemmas

/-- pulses contributed by one object: `segments − 1`, one per grounded end, one per end that
attaches to an earlier end (each such end raises the size `k` of its junction by one) -/
def contrib (o : ObjIn) : Nat :=
  (o.nseg - 1) + b2n o.g0 + b2n o.g1 + b2n o.h0.isSome + b2n o.h1.isSome

/-- an end that attaches to end `n2` of object `other` gets a junction pulse whose first half lies
on `other` (first end) resp. whose second half lies on `other` (second end), with direction sign
`−1` exactly when equal end numbers meet -/
theorem C12_joint_first (n : Nat) (o : ObjIn) (n2 other : Nat) (hg : o.g0 = false)
    (hh : o.h0 = some (n2, other)) (hlt : other < n) :
    firstPulses n o = [⟨other, n, sgnOf n2 0, 1, none, n⟩] := by
  unfold firstPulses
  simp only [idxAt_hit n o 0 _ _ hg hh]
  rw [if_pos ⟨mul_sgn_ne _ _ _, by rw [natAbs_mul_sgn]; omega⟩, natAbs_mul_sgn, isign_mul_sgn]
  simp

/-- no `other < n` here: only `firstPulses` tests `natAbs − 1 ≠ n` (the object may close on itself) -/
theorem C12_joint_last (n : Nat) (o : ObjIn) (n2 other : Nat) (hg : o.g1 = false)
    (hh : o.h1 = some (n2, other)) :
    lastPulses n o = [⟨n, other, 1, sgnOf n2 1, none, n⟩] := by
  unfold lastPulses
  simp only [idxAt_hit n o 1 _ _ hg hh, hg]
  rw [natAbs_mul_sgn, isign_mul_sgn]
  simp [mul_sgn_ne]

/-- a grounded end gets exactly one pulse, marked with that end -/
theorem C12_ground_first (n : Nat) (o : ObjIn) (hg : o.g0 = true) :
    firstPulses n o = [⟨n, n, 1, 1, some 0, n⟩] := by
  unfold firstPulses
  simp only [idxAt_ground n o 0 hg, hg]
  rw [if_neg (by omega)]
  simp

theorem firstPulses_length (objs : List Obj) (o : ObjIn) (h0 : hitOk objs objs.length o 0 = true) :
    (firstPulses objs.length o).length = b2n o.g0 + b2n o.h0.isSome := by
  cases hg : o.g0 with
  | true =>
    have hh : o.h0 = none := hitOk_ground _ _ _ 0 h0 hg
    rw [C12_ground_first _ o hg, hh]; rfl
  | false =>
    cases hh : o.h0 with
    | some v => rw [C12_joint_first _ o v.1 v.2 hg hh (hitOk0_lt objs o v.1 v.2 h0 hh)]; rfl
    | none =>
      -- no pulse here, also when the second end closes the loop on this end
      unfold firstPulses
      simp only [idxAt_none objs.length o 0 hg hh, hg]
      rw [if_neg (by split <;> omega)]
      rfl

theorem lastPulses_length (objs : List Obj) (n : Nat) (o : ObjIn) (h1 : hitOk objs n o 1 = true) :
    (lastPulses n o).length = b2n o.g1 + b2n o.h1.isSome := by
  cases hg : o.g1 with
  | true =>
    have hh : o.h1 = none := hitOk_ground _ _ _ 1 h1 hg
    simp [lastPulses, hg, hh, b2n]
  | false =>
    cases hh : o.h1 with
    | some v => rw [C12_joint_last n o v.1 v.2 hg hh]; rfl
    | none => simp [lastPulses, idxAt_none n o 1 hg hh, hg, b2n]

/-- one object creates exactly `contrib` pulses (whenever its hits are valid) -/
theorem C12_step_count (objs : List Obj) (o : ObjIn)
    (h0 : hitOk objs objs.length o 0 = true) (h1 : hitOk objs objs.length o 1 = true) :
    (mkPulses objs.length o).length = contrib o := by
  unfold mkPulses contrib
  simp only [List.length_append, List.length_replicate, firstPulses_length objs o h0,
    lastPulses_length objs _ o h1]
  omega

/-- **count formula**: the number of pulses equals the sum over all objects of
(segments − 1), plus one per grounded end, plus one per attaching end
(= Σ over junctions of (k − 1), each junction consisting of its registering end and its
k − 1 attaching ends) -/
theorem C12_count (os : List ObjIn) (st : State) (h : build os = .ok st) :
    st.pulses.length = (os.map contrib).sum := by
  refine build_induction (P := fun os st => st.pulses.length = (os.map contrib).sum) rfl ?_ h
  intro os st o st' ih hs
  obtain ⟨h0, h1, _, _, hp, _⟩ := step_ok st st' o hs
  simp [hp, ih, C12_step_count _ _ h0 h1]

/-- the per-object pulse index lists, concatenated in object order -/
def blocks (objs : List Obj) : List Nat :=
  objs.flatMap fun ob => (List.range ob.count).map (· + ob.start)

/-- **numbering**: pulses are numbered `0 … N−1` without gaps and the blocks of the objects,
taken in object order, are consecutive runs that together list every pulse exactly once -/
theorem C12_numbering (os : List ObjIn) (st : State) (h : build os = .ok st) :
    blocks st.objs = List.range st.pulses.length := by
  refine build_induction (P := fun _ st => blocks st.objs = List.range st.pulses.length) rfl ?_ h
  intro _ st o st' ih hs
  obtain ⟨_, _, _, _, hp, ho⟩ := step_ok st st' o hs
  rw [ho, hp, blocks, List.flatMap_append, ← blocks, ih, List.length_append]
  simp [List.range_add, Nat.add_comm]

/-- every pulse an object creates is listed in that object's block (ownership) -/
theorem C12_owner (n : Nat) (o : ObjIn) : ∀ p ∈ mkPulses n o, p.owner = n := by
  -- both end lists have the form `if _ then [a] else if _ then [b] else []` with `a.owner = b.owner = n`
  have hends : ∀ (c d : Prop) [Decidable c] [Decidable d] (a b : Pulse), a.owner = n → b.owner = n →
      ∀ p ∈ (if c then [a] else if d then [b] else []), p.owner = n := by
    intro c d _ _ a b ha hb p hp
    split_ifs at hp <;> simp_all
  simp only [mkPulses, List.forall_mem_append]
  exact ⟨⟨hends _ _ _ _ rfl rfl, fun p hp => List.eq_of_mem_replicate hp ▸ rfl⟩, hends _ _ _ _ rfl rfl⟩

/-- error branch: an object whose two ends attach to the same end of the same object is
rejected (`assert geobj not in self.geo` in the implementation) -/
theorem C12_error_dup (st : State) (o : ObjIn) (r : Nat × Nat) (h0 : o.h0 = some r) (h1 : o.h1 = some r) :
    ∃ e, step st o = .error e := by
  simp only [step, h0, h1, Option.isSome_some, beq_self_eq_true, Bool.and_self, if_true]
  split_ifs <;> exact ⟨_, rfl⟩

/-- **joining rule** (any scalar type with a decidable order): a wire end is joined to an
already known end exactly when one of them coincides with it or lies within the tolerance
`tol` (= `min_seglen · 1e-3`, the factor being the literal of the source) -/
theorem C12_match_local {K : Type} [Add K] [Sub K] [Mul K] [HasSqrt K] [BEq K] [LE K] [DecidableLE K]
    (reg : List (V3 K × (Nat × Nat))) (p : V3 K) (tol : K) :
    (lookup reg p tol).isSome = true ↔
      ∃ r ∈ reg, veq r.1 p = true ∨ V3.norm (p - r.1) ≤ tol := by
  have h : (lookup reg p tol).isSome = ((reg.find? fun r => veq r.1 p).isSome ||
      (reg.find? fun r => decide (V3.norm (p - r.1) ≤ tol)).isSome) := by
    unfold lookup
    cases reg.find? fun r => veq r.1 p
    · cases reg.find? fun r => decide (V3.norm (p - r.1) ≤ tol) <;> rfl
    · rfl
  simp only [h, Bool.or_eq_true, List.find?_isSome, decide_eq_true_eq, ← exists_or, ← and_or_left]

/-- the tolerance factor of the source is 1/1000 -/
theorem C12_tolerance : Pmn.Const.matchTol = ⟨1, 1000⟩ ∧ Pmn.Const.groundTol = ⟨1, 1000⟩ := by decide

section MinSeg
variable {K : Type} [LinearOrder K]

theorem minOf_spec (d : K) (l : List K) (hl : l ≠ []) :
    minOf d l ∈ l ∧ ∀ y ∈ l, minOf d l ≤ y := by
  cases l with
  | nil => exact absurd rfl hl
  | cons x r =>
    clear hl
    show r.foldl _ x ∈ x :: r ∧ ∀ y ∈ x :: r, r.foldl _ x ≤ y
    induction r generalizing x with
    | nil => simp
    | cons a r ih =>
      simp only [List.foldl_cons, List.mem_cons, forall_eq_or_imp] at ih ⊢
      -- the fold goes on from the smaller of `x` and `a`
      by_cases h : a < x
      · rw [if_pos h]
        have ⟨hm, hle⟩ := ih a
        exact ⟨Or.inr hm, hle.1.trans h.le, hle⟩
      · rw [if_neg h]
        have ⟨hm, hle⟩ := ih x
        exact ⟨hm.imp_right Or.inr, hle.1, hle.1.trans (not_lt.mp h), hle.2⟩

/-- **the joining tolerance refers to the shortest segment of the whole structure**: `minSegLen` is the length of
some segment of some object and no segment of any object is shorter (every object has at least one segment) -/
theorem C12_min_seglen (d : K) (objs : List (List K)) (hne : objs ≠ []) (hseg : ∀ o ∈ objs, o ≠ []) :
    (∃ o ∈ objs, minSegLen d objs ∈ o) ∧ ∀ o ∈ objs, ∀ s ∈ o, minSegLen d objs ≤ s := by
  obtain ⟨hmem, hle⟩ := minOf_spec d (objs.map (minOf d)) (by simpa using hne)
  refine ⟨?_, fun o ho s hs => (hle _ (List.mem_map_of_mem ho)).trans ((minOf_spec d o (hseg o ho)).2 s hs)⟩
  obtain ⟨o, ho, he⟩ := List.mem_map.mp hmem
  exact ⟨o, ho, by rw [minSegLen, ← he]; exact (minOf_spec d o (hseg o ho)).1⟩

end MinSeg

/-- the former rule (`minSegLenFirst`) took the first segment of a tapered wire / a curve: a wire tapered from its
second end (segments 8, 4, 2, 1) next to a wire with segments of length 5 gave 5 as the shortest segment, not 1 -/
theorem C12_min_seglen_defect_witness :
    minSegLenFirst (0 : Nat) [[8, 4, 2, 1], [5, 5, 5]] = 5 ∧ minSegLen (0 : Nat) [[8, 4, 2, 1], [5, 5, 5]] = 1 := by
  decide

/-! a three-wire star from one point (wire 2 and 3 attach to end 0 of wire 1), one of
them grounded at its far end: 3·(2−1) + 1 + 2 = 6 pulses -/
example : ((build [⟨2, false, false, none, none⟩, ⟨2, false, true, some (0, 0), none⟩,
    ⟨2, false, false, some (0, 0), none⟩]).toOption.map (·.pulses.length)) = some 6 := by decide

end Pmn.Props.C12
