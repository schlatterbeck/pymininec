/-
C18 — the generated BASIC-MININEC input describes the same antenna.

`readAntenna (writeAntenna m ++ rest) = some (m, rest)`: a reader that follows the prompts of the BASIC program in
their order recovers exactly the antenna description that was written — frequency, environment and media, every
(emulated) wire, every source with pulse number, magnitude and phase in degrees, every load with pulse number and
value — for every model in normal form (`WF`: fields that the format does not carry hold the default).
`section Tail`: the same for the request part that follows the antenna, with its own normal form (`WFTail`).
-/
import Pmn.Model.Basic

namespace Pmn.Props.C18
open Pmn.Basic

variable {N : Type}

/-- medium `m` at position `i` of `n` carries nothing the format does not print -/
def WFMedium (c : Bool) (d : N) (i n : Nat) (m : Medium N) : Prop :=
  (i = 0 → m.height = d) ∧ (¬ (i + 1 < n) → m.coord = d) ∧
  (¬ (i = 0 ∧ 1 < n ∧ c = true) → m.nradials = 0) ∧ (m.nradials = 0 → m.radius = d)

def WFMediaFrom (c : Bool) (d : N) (n : Nat) : Nat → List (Medium N) → Prop
  | _, [] => True
  | i, m :: r => WFMedium c d i n m ∧ WFMediaFrom c d n (i + 1) r

def WFEnv (d : N) : Env N → Prop
  | .free => True
  | .ideal => True
  | .media c ms => 0 < ms.length ∧ (ms.length = 1 → c = false) ∧ WFMediaFrom c d ms.length 0 ms

def WFLoad (isS : Bool) : Load N → Prop
  | .imp _ _ _ => isS = false
  | .spar _ cs => isS = true ∧ cs ≠ []

def WF (d : N) (m : Model N) : Prop :=
  WFEnv d m.env ∧ (∀ l ∈ m.loads, WFLoad m.sLoads l) ∧ (m.loads = [] → m.sLoads = false)

theorem readMedium_write (c : Bool) (d : N) (i n : Nat) (m : Medium N) (rest : List (Line N))
    (h : WFMedium c d i n m) :
    readMedium c i n d (writeMedium c i n m ++ rest) = some (m, rest) := by
  obtain ⟨h1, h2, h3, h4⟩ := h
  obtain ⟨e, s, ht, co, nr, rad⟩ := m
  simp only at h1 h2 h3 h4
  unfold writeMedium readMedium
  -- the prompts depend on the position: a later medium, the only one, the first of several
  by_cases hi : 0 < i
  · have hnr := h3 (by omega)
    by_cases hl : i + 1 < n <;> simp [hi, hl, hnr, h2, h4]
  · obtain rfl : i = 0 := by omega
    by_cases hn : 1 < n
    · by_cases hc : c = true
      · by_cases hz : nr = 0 <;> simp [hn, hc, hz, h1, h4]
      · simp [hn, hc, h1, h3, h4]
    · simp [hn, h1, h2, h3, h4]

theorem readMediaFrom_write (c : Bool) (d : N) (n : Nat) (ms : List (Medium N)) (i : Nat)
    (rest : List (Line N)) (h : WFMediaFrom c d n i ms) :
    readMediaFrom c n d ms.length i (writeMediaFrom c n i ms ++ rest) = some (ms, rest) := by
  induction ms generalizing i with
  | nil => rfl
  | cons m r ih => simp [readMediaFrom, writeMediaFrom, readMedium_write c d i n m _ h.1, ih (i + 1) h.2]

theorem answer_beq (b : Bool) {yes no : String} (h : no ≠ yes) : ((if b = true then yes else no) == yes) = b := by
  cases b
  · exact beq_false_of_ne h
  · exact beq_self_eq_true yes

theorem readEnv_write (d : N) (env : Env N) (rest : List (Line N)) (h : WFEnv d env) :
    readEnv d (writeEnv env ++ rest) = some (env, rest) := by
  cases env with
  | free => simp [writeEnv, readEnv]
  | ideal => simp [writeEnv, readEnv]
  | media c ms =>
    obtain ⟨hpos, hone, hwf⟩ := h
    have hms := readMediaFrom_write c d ms.length ms 0 rest hwf
    by_cases h1 : ms.length = 1
    · obtain rfl := hone h1
      rw [h1] at hms
      simp [writeEnv, readEnv, h1, hms]
    · have : 1 < ms.length := by omega
      simp [writeEnv, readEnv, h1, answer_beq, hms, this, Nat.ne_of_gt hpos]

theorem readMany_flatMap {α : Type} (rd : List (Line N) → Option (α × List (Line N)))
    (wr : α → List (Line N)) (xs : List α) (hrw : ∀ x ∈ xs, ∀ rest, rd (wr x ++ rest) = some (x, rest))
    (rest : List (Line N)) :
    readMany rd xs.length (xs.flatMap wr ++ rest) = some (xs, rest) := by
  induction xs with
  | nil => rfl
  | cons x r ih =>
    simp only [List.mem_cons, forall_eq_or_imp] at hrw
    simp [readMany, hrw.1, ih hrw.2]

theorem readWire_write (w : Wire N) (rest : List (Line N)) :
    readWire (writeWire w ++ rest) = some (w, rest) := by
  simp [writeWire, readWire, point]

theorem readSource_write (s : Source N) (rest : List (Line N)) :
    readSource (writeSource s ++ rest) = some (s, rest) := by
  simp [writeSource, readSource]

theorem readCoeffs_write (cs : List (N × N)) (rest : List (Line N)) :
    readCoeffs cs.length (cs.map (fun c => [Tok.num c.1 "%g", Tok.num c.2 "%g"]) ++ rest) = some (cs, rest) := by
  induction cs with
  | nil => rfl
  | cons c r ih => simp [readCoeffs, ih]

theorem readLoad_write (isS : Bool) (l : Load N) (rest : List (Line N)) (h : WFLoad isS l) :
    readLoad isS (writeLoad l ++ rest) = some (l, rest) := by
  cases l with
  | imp p re im =>
    obtain rfl : isS = false := h
    simp [writeLoad, readLoad]
  | spar p cs =>
    obtain ⟨rfl, hne⟩ := h
    have hlen : cs.length - 1 + 1 = cs.length := Nat.sub_add_cancel (List.length_pos_iff.mpr hne)
    simp [writeLoad, readLoad, hlen, readCoeffs_write]

/-- **round trip** of the antenna description through the prompt-order reader -/
theorem C18_roundtrip (d : N) (m : Model N) (rest : List (Line N)) (h : WF d m) :
    readAntenna d (writeAntenna m ++ rest) = some (m, rest) := by
  obtain ⟨henv, hloads, hempty⟩ := h
  obtain ⟨file, f, env, wires, sources, sLoads, loads⟩ := m
  simp only at henv hloads hempty
  have hws := readMany_flatMap readWire writeWire wires fun w _ => readWire_write w
  have hss := readMany_flatMap readSource writeSource sources fun s _ => readSource_write s
  have hls := readMany_flatMap (readLoad sLoads) writeLoad loads fun l hl rest => readLoad_write sLoads l rest (hloads l hl)
  by_cases hl : loads = []
  · subst hl
    simp [writeAntenna, readAntenna, readEnv_write d env _ henv, hws, hss, hempty rfl]
  · simp [writeAntenna, readAntenna, readEnv_write d env _ henv, hws, hss, hl, answer_beq, hls]

/-- a source is written with its pulse number, magnitude and the phase in DEGREES -/
theorem C18_source_line (s : Source N) :
    writeSource s = [[.int s.pulse, .num s.mag "%g", .num s.phaseDeg "%g"]] := rfl

/-- a plain wire is written as itself; an emulated object as one single-segment wire per segment -/
theorem C18_emulate_count (o : Obj N) (h : o.single = false) : (emulate o).length = o.segs.length := by
  unfold emulate
  rw [h]
  cases o.segs <;> simp

theorem C18_emulate_single (o : Obj N) (h : o.single = true) : emulate o = [⟨o.nseg, o.p1, o.p2, o.r⟩] := by
  unfold emulate; rw [h]; rfl

-- two media (circular boundary, 8 radials on the first), two wires, a source and an S-parameter load
def demo : Model Nat :=
  ⟨"MININEC.OUT", 7, .media true [⟨13, 5, 0, 20, 8, 1⟩, ⟨4, 1, 2, 0, 0, 0⟩],
   [⟨4, (0, 0, 0), (0, 0, 5), 1⟩, ⟨1, (0, 0, 5), (3, 0, 5), 1⟩],
   [⟨2, 1, 90⟩], true, [.spar 3 [(1, 0), (2, 1)]]⟩

example : readAntenna 0 (writeAntenna demo ++ [[.lit "C"]]) = some (demo, [[.lit "C"]]) := rfl

section Tail
variable {N : Type} [DecidableEq N]

/-- a far-field request in normal form: a dBi request carries no power level and the default distance -/
def WFTail (dflt : N) (t : Tail N) : Prop :=
  ∀ p, t.pat = some p → p.ffAbs = false → p.pwr = none ∧ p.dist = dflt

theorem readNear_write (q : NearReq N) :
    readNear (writeNearBlock "E" q ++ writeNearBlock "H" q ++ [[Tok.lit "Q"]]) = some (some q, [[Tok.lit "Q"]]) := by
  obtain ⟨x, y, z, pw⟩ := q
  cases pw <;> simp [writeNearBlock, rangeLine, readNear, readNearBlock, readRange, readPower]

theorem readNear_none : readNear ([[Tok.lit "Q"]] : List (Line N)) = some (none, [[Tok.lit "Q"]]) := by
  simp [readNear]

theorem readPattern_write (dflt : N) (p : Pattern N) (h : p.ffAbs = false → p.pwr = none ∧ p.dist = dflt)
    (rest : List (Line N)) :
    readPattern dflt ((writePattern p).tail ++ rest) = some (p, rest) := by
  obtain ⟨ffAbs, pwr, dist, zen, azi, g⟩ := p
  cases ffAbs
  · obtain ⟨rfl, rfl⟩ := h rfl
    cases g <;> rfl
  · cases pwr <;> cases g <;> rfl

theorem readNear_writeOpt (near : Option (NearReq N)) :
    readNear ((match near with
        | none => []
        | some q => writeNearBlock "E" q ++ writeNearBlock "H" q) ++ [[Tok.lit "Q"]]) = some (near, [[Tok.lit "Q"]]) := by
  cases near
  · exact readNear_none
  · exact readNear_write _

theorem readTail_pattern (dflt : N) (p : Pattern N) (h : p.ffAbs = false → p.pwr = none ∧ p.dist = dflt)
    (near : Option (NearReq N)) (r : List (Line N)) (hr : readNear r = some (near, [[Tok.lit "Q"]])) :
    readTail dflt ([.lit "C"] :: [.lit "N"] :: (writePattern p ++ r)) = some ⟨some p, near⟩ := by
  show readTail dflt ([.lit "C"] :: [.lit "N"] :: [.lit "P"] :: ((writePattern p).tail ++ r)) = _
  simp [readTail, readPattern_write dflt p h r, hr]

theorem readTail_noPattern (dflt : N) (near : Option (NearReq N)) (r : List (Line N))
    (hr : readNear r = some (near, [[Tok.lit "Q"]])) :
    readTail dflt ([.lit "C"] :: [.lit "N"] :: r) = some ⟨none, near⟩ := by
  -- lines that begin with the command `P` are left as they are by `readNear`, so they are not `r`;
  -- with this in the context `simp` takes the second branch of the `match` on `r`
  have hP : ∀ r', r = [Tok.lit "P"] :: r' → False := by
    rintro r' rfl
    simp [readNear] at hr
  simp [readTail, hr]

/-- **the request part of the generated input reads back**: currents, optional pattern block (dBi or V/m with an optional
new power level and the distance), optional near-field blocks (electric and magnetic, the same ranges), quit -/
theorem C18_tail_roundtrip (dflt : N) (t : Tail N) (h : WFTail dflt t) : readTail dflt (writeTail t) = some t := by
  obtain ⟨pat, near⟩ := t
  have hnear := readNear_writeOpt near
  cases pat with
  | none => exact readTail_noPattern dflt near _ hnear
  | some p =>
    simp only [writeTail, List.append_assoc, List.cons_append, List.nil_append]
    exact readTail_pattern dflt p (h p rfl) near _ hnear

/-- without the normal form the request does not read back: a dBi request forgets a power level it was given -/
theorem C18_tail_defect_witness :
    readTail (0 : Nat) (writeTail ⟨some ⟨false, some 5, 7, (1, 2, 3), (4, 5, 6), none⟩, none⟩)
      ≠ some ⟨some ⟨false, some 5, 7, (1, 2, 3), (4, 5, 6), none⟩, none⟩ := by
  decide

-- a V/m request with a new power level, a near-field request with another one
example : WFTail (0 : Nat) ⟨some ⟨true, some 5, 7, (1, 2, 3), (4, 5, 6), some "g.out"⟩, some ⟨(1, 2, 3), (4, 5, 6), (7, 8, 9), some 2⟩⟩ := by
  rintro _ ⟨⟩ ⟨⟩

end Tail

end Pmn.Props.C18
