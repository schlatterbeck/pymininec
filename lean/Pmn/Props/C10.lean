/-
C10 — the far field is the radiation integral of the currents; dBi and V/m agree.

Over ℝ for the model of `Pmn.Model.Far` (free space, ideal and real ground where stated).
The clause "within 2 % of the exact integral over the straight half-segments" is proved per pulse only
(`C10_exact_integral_partial`, `_lambda18`); relating the sum over pulses to the *pattern maximum* has no theorem
and is evaluated by the harness (exact sinc integral vs the model's point moments) on generated antennas.
-/
import Pmn.Proofs.CxC
import Pmn.Model.Const
import Mathlib.Analysis.SpecialFunctions.Sqrt
import Mathlib.Analysis.SpecialFunctions.Trigonometric.Bounds
import Mathlib.Analysis.SpecialFunctions.Integrals.Basic
import Mathlib.Analysis.Real.Pi.Bounds

namespace Pmn.Props.C10
open Pmn.Far Pmn.FarLemmas Pmn.CxC

/-! Every layer of the far field is the pulse current times the value for unit current. -/

theorem moment_cur (w : ℝ) (r pt : V3 ℝ) (kz hh : ℝ) (h : Half ℝ) (cur : Cx ℝ) :
    moment w r pt kz hh h cur = cur * moment w r pt kz hh h cxOne := by
  unfold moment
  apply toC_inj
  simp only [to_complex]
  ring

theorem halfIdeal_cur (w t p k : ℝ) (isK1 : Bool) (pt : V3 ℝ) (h : Half ℝ) (cur : Cx ℝ) :
    halfIdeal w t p k isK1 pt h cur = CV3.smul cur (halfIdeal w t p k isK1 pt h cxOne) := by
  unfold halfIdeal
  split
  · rw [cv3_smul_zero]
  · rw [moment_cur _ _ _ _ _ _ cur, ofMasked_mul]

theorem halfReal_cur (w t p : ℝ) (c : Bool) (nr : Nat) (rr : ℝ) (media : List (MediumF ℝ)) (pt : V3 ℝ)
    (h : Half ℝ) (cur : Cx ℝ) :
    halfReal w t p c nr rr media pt h cur = CV3.smul cur (halfReal w t p c nr rr media pt h cxOne) := by
  unfold halfReal
  split
  · rw [cv3_smul_zero]
  · simp only [moment_cur _ _ _ _ _ _ cur]
    apply cv3_toC_ext <;> simp only [to_complex] <;> ring

theorem pulseG_cur (env : Env ℝ) (w t p : ℝ) (pu : PulseF ℝ) (cur : Cx ℝ) :
    pulseG env w t p pu cur = CV3.smul cur (pulseG env w t p pu cxOne) := by
  have hI := fun k b h => halfIdeal_cur w t p k b pu.pt h cur
  have hR := fun c nr rr media h => halfReal_cur w t p c nr rr media pu.pt h cur
  cases env <;> simp only [pulseG, hI, hR, cv3_smul_add]

/-- **the far field is linear in the pulse currents** (free space, ideal and real ground): the
vector amplitude of `a·I + b·J` is `a·G(I) + b·G(J)` -/
theorem C10_linear (env : Env ℝ) (w t p : ℝ) (ps : List (PulseF ℝ)) (I J : List (Cx ℝ)) (a b : Cx ℝ)
    (hI : I.length = ps.length) (hJ : J.length = ps.length) :
    gvec env w t p ps (List.zipWith (fun i j => a * i + b * j) I J)
      = CV3.add (CV3.smul a (gvec env w t p ps I)) (CV3.smul b (gvec env w t p ps J)) := by
  induction ps generalizing I J with
  | nil => simp only [gvec]; exact cv3_comb_zero a b
  | cons pu r ih =>
    match I, J, hI, hJ with
    | i :: I', j :: J', hI, hJ =>
      simp only [List.zipWith_cons_cons, gvec]
      rw [ih I' J' (by simpa using hI) (by simpa using hJ), pulseG_cur _ _ _ _ _ (a * i + b * j),
        pulseG_cur _ _ _ _ _ i, pulseG_cur _ _ _ _ _ j]
      apply cv3_toC_ext <;> simp only [to_complex] <;> ring

/-- total = vertical + horizontal (power sum) -/
theorem C10_total (k9c power : ℝ) (a b : Cx ℝ) :
    (linGains k9c power a b).2.2 = (linGains k9c power a b).1 + (linGains k9c power a b).2.1 := rfl

theorem linGains_eq (k9c power : ℝ) (a b : Cx ℝ) :
    linGains k9c power a b = (k9c / power * Cx.normSq a, k9c / power * Cx.normSq b,
      k9c / power * Cx.normSq a + k9c / power * Cx.normSq b) := rfl

theorem eField_of_ne (a : Cx ℝ) {rd : ℝ} (ratio : ℝ) (hr : rd ≠ 0) :
    eField a rd ratio = ⟨Real.sqrt ratio * (a.re / rd), Real.sqrt ratio * (a.im / rd)⟩ := by
  have hrd : (rd == ((0 : Nat) : ℝ)) = false := by simpa using hr
  simp only [eField, hrd, Bool.false_eq_true, if_false, Cx.scale, HasSqrt.sqrt]

theorem normSq_eField (a : Cx ℝ) {rd ratio : ℝ} (hr : rd ≠ 0) (hq : 0 ≤ ratio) :
    Cx.normSq (eField a rd ratio) * rd ^ 2 = ratio * Cx.normSq a := by
  have hs := Real.sq_sqrt hq
  rw [eField_of_ne a _ hr]
  generalize Real.sqrt ratio = s at hs
  subst hs
  simp only [Cx.normSq]
  field_simp

/-- **gain = |E|² r² / (P / k9c)**: the V/m value `E = h12 / r · sqrt (P_req / P)` and the linear
gain `k9c/P · |h12|²` satisfy `gain = k9c · |E|² r² / P_req` -/
theorem C10_units (k9c power preq rd : ℝ) (a b : Cx ℝ) (hP : 0 < power) (hq : 0 < preq) (hr : rd ≠ 0) :
    (linGains k9c power a b).1
      = k9c * (Cx.normSq (eField a rd (preq / power)) * rd ^ 2) / preq := by
  rw [normSq_eField a hr (div_nonneg hq.le hP.le), linGains_eq]
  field_simp

/-- `1 / k9c = 59.96` to the printed precision: the constant of the source -/
theorem C10_k9 : |(1 : ℚ) / ((Pmn.Const.k9Factor.num : ℚ) / Pmn.Const.k9Factor.den) - 5996 / 100| < 1 / 100 := by
  simp only [Pmn.Const.k9Factor]; norm_num

/-- V/m values scale with the square root of the requested power and inversely with distance -/
theorem C10_scaling (a : Cx ℝ) (rd ratio c : ℝ) (hr : rd ≠ 0) (hc : 0 < c) (hq : 0 ≤ ratio) :
    eField a rd (c * ratio) = Cx.scale (Real.sqrt c) (eField a rd ratio) ∧
    eField a (c * rd) ratio = Cx.scale (1 / c) (eField a rd ratio) := by
  rw [eField_of_ne a _ (mul_ne_zero hc.ne' hr), eField_of_ne a _ hr, eField_of_ne a _ hr, Real.sqrt_mul hc.le]
  constructor
  · simp only [Cx.scale, mul_assoc]
  · simp only [Cx.scale]
    congr 1 <;> field_simp

theorem deg_period (d : ℝ) : (d + 360) / 180 * Real.pi = d / 180 * Real.pi + 2 * Real.pi := by ring

theorem gvec_congr {env : Env ℝ} {w t p t' p' : ℝ}
    (h : ∀ pu c, pulseG env w t p pu c = pulseG env w t' p' pu c) (ps : List (PulseF ℝ)) (I : List (Cx ℝ)) :
    gvec env w t p ps I = gvec env w t' p' ps I := by
  induction ps generalizing I with
  | nil => cases I <;> rfl
  | cons pu r ih =>
    cases I with
    | nil => rfl
    | cons i I' => simp only [gvec, h, ih]

/-- a pulse sees of the direction only the sines and cosines of the two angles -/
theorem pulseG_trig {t p t' p' : ℝ} (hst : HasTrig.sin t = HasTrig.sin t') (hct : HasTrig.cos t = HasTrig.cos t')
    (hsp : HasTrig.sin p = HasTrig.sin p') (hcp : HasTrig.cos p = HasTrig.cos p')
    (env : Env ℝ) (w : ℝ) (pu : PulseF ℝ) (c : Cx ℝ) :
    pulseG env w t p pu c = pulseG env w t' p' pu c := by
  cases env <;> simp only [pulseG, halfIdeal, halfReal, rhat, hst, hct, hsp, hcp]

/-- **directions 360° apart give identical rows**: the amplitude is 2π-periodic in both angles -/
theorem C10_period (env : Env ℝ) (w t p : ℝ) (ps : List (PulseF ℝ)) (I : List (Cx ℝ)) :
    gvec env w (t + 2 * Real.pi) p ps I = gvec env w t p ps I ∧
    gvec env w t (p + 2 * Real.pi) ps I = gvec env w t p ps I ∧
    thetahat (t + 2 * Real.pi) p = thetahat t p ∧ thetahat t (p + 2 * Real.pi) = thetahat t p ∧
    phihat (p + 2 * Real.pi) = phihat p := by
  have hs : ∀ x : ℝ, HasTrig.sin (x + 2 * Real.pi) = HasTrig.sin x := Real.sin_add_two_pi
  have hc : ∀ x : ℝ, HasTrig.cos (x + 2 * Real.pi) = HasTrig.cos x := Real.cos_add_two_pi
  refine ⟨?_, ?_, ?_, ?_, ?_⟩
  · exact gvec_congr (pulseG_trig (hs t) (hc t) rfl rfl env w) ps I
  · exact gvec_congr (pulseG_trig rfl rfl (hs p) (hc p) env w) ps I
  · simp only [thetahat, hs, hc]
  · simp only [thetahat, hs, hc]
  · simp only [phihat, hs, hc]

/-- **the total gain at the zenith is the same for every azimuth**: there the two polarisations add up to
`|G_x|² + |G_y|²`, for *any* amplitude vector -/
theorem C10_zenith (g : CV3 ℝ) (g0 p : ℝ) :
    Cx.normSq (h12 g0 g 0 p) + Cx.normSq (x34 g0 g p)
      = g0 ^ 2 * (Cx.normSq g.x + Cx.normSq g.y) := by
  unfold h12 x34 thetahat phihat
  simp only [Cx.normSq, CV3.dotR, Cx.scale, cx_add_def, cx_mul_def, HasTrig.sin, HasTrig.cos, Real.sin_zero,
    Real.cos_zero]
  have := Real.sin_sq_add_cos_sq p
  linear_combination (g0 ^ 2 * (g.x.re ^ 2 + g.x.im ^ 2 + g.y.re ^ 2 + g.y.im ^ 2)) * this

theorem rhat_zenith (p : ℝ) : rhat (0 : ℝ) p = ⟨0, 0, 1⟩ := by
  simp [rhat, HasTrig.sin, HasTrig.cos]

/-- the amplitude vector at the zenith does not depend on the azimuth (free space, ideal ground) -/
theorem C10_zenith_amplitude (w p q : ℝ) (ps : List (PulseF ℝ)) (I : List (Cx ℝ)) :
    gvec .free w 0 p ps I = gvec .free w 0 q ps I ∧ gvec .ideal w 0 p ps I = gvec .ideal w 0 q ps I := by
  constructor <;>
  · apply gvec_congr
    intro pu c
    simp only [pulseG, halfIdeal, rhat_zenith]

theorem gvec_smul (env : Env ℝ) (w t p : ℝ) (ps : List (PulseF ℝ)) (I : List (Cx ℝ)) (c : Cx ℝ) :
    gvec env w t p ps (I.map (fun i => c * i)) = CV3.smul c (gvec env w t p ps I) := by
  induction ps generalizing I with
  | nil => cases I <;> exact (cv3_smul_zero c).symm
  | cons pu r ih =>
    cases I with
    | nil => exact (cv3_smul_zero c).symm
    | cons i I' =>
      simp only [List.map_cons, gvec]
      rw [ih, pulseG_cur _ _ _ _ _ (c * i), pulseG_cur _ _ _ _ _ i]
      apply cv3_toC_ext <;> simp only [to_complex] <;> ring

/-- both polarisations are `−j g0 G·u` for a unit vector `u` -/
theorem proj_smul (g0 : ℝ) (g : CV3 ℝ) (u : V3 ℝ) (c j : Cx ℝ) :
    Cx.scale g0 (CV3.dotR (CV3.smul c g) u) * j = c * (Cx.scale g0 (CV3.dotR g u) * j) := by
  apply toC_inj
  simp only [to_complex]
  ring

/-- **scaling all currents by `c` (hence the power by `|c|²`) leaves the three linear gains, and with them the dBi
pattern, unchanged** -/
theorem C10_pattern_scale (k9c g0 power t p : ℝ) (g : CV3 ℝ) (c : Cx ℝ) (hc : Cx.normSq c ≠ 0) (hP : power ≠ 0) :
    linGains k9c (Cx.normSq c * power) (h12 g0 (CV3.smul c g) t p) (x34 g0 (CV3.smul c g) p)
      = linGains k9c power (h12 g0 g t p) (x34 g0 g p) := by
  have h : ∀ x : Cx ℝ, k9c / (Cx.normSq c * power) * Cx.normSq (c * x) = k9c / power * Cx.normSq x := by
    intro x
    rw [normSq_mul]
    field_simp
  simp only [h12, x34, proj_smul, linGains_eq, h]

/-- the phase factor of a constant current along a straight pulse, integrated over its two halves of length `h`
(`u` runs along the wire, `k = w·c` with `c` the cosine between wire and direction) -/
theorem exact_pair_integral (k h : ℝ) (hk : k ≠ 0) :
    (∫ u in (-h)..h, Real.cos (k * u)) = 2 * Real.sin (k * h) / k ∧ (∫ u in (-h)..h, Real.sin (k * u)) = 0 := by
  constructor
  · rw [intervalIntegral.integral_comp_mul_left (fun x => Real.cos x) hk]
    simp only [integral_cos, mul_neg, Real.sin_neg, smul_eq_mul]
    field_simp
    ring
  · rw [intervalIntegral.integral_comp_mul_left (fun x => Real.sin x) hk]
    simp [integral_sin]

theorem sinc_bound (x : ℝ) (h0 : x ≠ 0) : |Real.sin x / x - 1| ≤ x ^ 2 / 6 := by
  rw [div_sub_one h0, abs_div, abs_sub_comm, div_le_iff₀ (abs_pos.mpr h0)]
  calc |x - Real.sin x| ≤ |x| ^ 3 / 6 := Real.abs_sub_sin_le x
    _ = x ^ 2 / 6 * |x| := by rw [← sq_abs x]; ring

/-- **exact integral vs point moment, per pulse** (partial: the property relates the *sum* to the pattern maximum): for
a straight pulse with two equal halves of length `h`, wave number `w` and any direction (cosine `c ≠ 0`, `|c| ≤ 1`;
for `c = 0` both are `2h`), the exact integral `2 sin (w c h)/(w c)` of the phase factor deviates from the point
moment `2h` by at most `(w h)²/6` of that moment -/
theorem C10_exact_integral_partial (w c h : ℝ) (hw : 0 < w) (hh : 0 < h) (hc : |c| ≤ 1) (hc0 : c ≠ 0) :
    |2 * Real.sin (w * c * h) / (w * c) - 2 * h| ≤ 2 * h * ((w * h) ^ 2 / 6) := by
  have hx : w * c * h ≠ 0 := mul_ne_zero (mul_ne_zero hw.ne' hc0) hh.ne'
  have h2 : 0 < 2 * h := mul_pos two_pos hh
  have e : 2 * Real.sin (w * c * h) / (w * c) - 2 * h = 2 * h * (Real.sin (w * c * h) / (w * c * h) - 1) := by
    field_simp
  rw [e, abs_mul, abs_of_pos h2]
  refine mul_le_mul_of_nonneg_left ((sinc_bound _ hx).trans ?_) h2.le
  calc (w * c * h) ^ 2 / 6 = (w * h) ^ 2 / 6 * c ^ 2 := by ring
    _ ≤ (w * h) ^ 2 / 6 := mul_le_of_le_one_right (by positivity) ((sq_le_one_iff_abs_le_one c).mpr hc)

/-- for segments up to 1/18 wavelength (`h` = half a segment) that is less than 0.52 % -/
theorem C10_exact_integral_lambda18 (lam d : ℝ) (hl : 0 < lam) (hd : 0 < d) (h18 : d ≤ lam / 18) :
    (2 * Real.pi / lam * (d / 2)) ^ 2 / 6 < 0.0052 := by
  have hdl : d / lam ≤ 1 / 18 := by rwa [div_le_iff₀ hl, one_div_mul_eq_div]
  calc (2 * Real.pi / lam * (d / 2)) ^ 2 / 6 = (Real.pi * (d / lam)) ^ 2 / 6 := by ring
    _ ≤ (3.15 * (1 / 18)) ^ 2 / 6 := by gcongr; exact Real.pi_lt_d2.le
    _ < 0.0052 := by norm_num

end Pmn.Props.C10
