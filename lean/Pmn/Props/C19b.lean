/-
C19 (continued) — "magnitude and phase columns agree with the real and imaginary columns".

Over ℂ: the printed real and imaginary parts are within a relative `ε` of the parts of the value, the printed
magnitude within a relative `δ` of its modulus (`C19_ge1`, `C19_frac`, `C19_sci`: 5e-7, or 5e-6 for a field in 0.1…1).
Then the printed magnitude agrees with the modulus of the printed parts within `(δ + ε)·|z|`, and the complex number
the printed parts denote is within `ε·|z|` of the value — so the direction (phase) it defines differs from the
phase of the value by at most `arcsin ε`.
-/
import Mathlib.Analysis.Complex.Basic

namespace Pmn.Props.C19b

private theorem sq_le_of_abs_le_mul {a b ε : ℝ} (h : |a| ≤ ε * |b|) : a ^ 2 ≤ ε ^ 2 * b ^ 2 := by
  rw [← sq_abs a, ← sq_abs b, ← mul_pow]
  exact pow_le_pow_left₀ (abs_nonneg a) h 2

/-- component-wise relative accuracy gives relative accuracy of the complex number:
`‖z' − z‖² = Δre² + Δim² ≤ ε²·(re² + im²) = (ε·‖z‖)²` -/
theorem parts_close (z z' : ℂ) (ε : ℝ) (hε : 0 ≤ ε)
    (hre : |z'.re - z.re| ≤ ε * |z.re|) (him : |z'.im - z.im| ≤ ε * |z.im|) :
    ‖z' - z‖ ≤ ε * ‖z‖ := by
  have h1 := sq_le_of_abs_le_mul hre
  have h2 := sq_le_of_abs_le_mul him
  rw [← sq_le_sq₀ (norm_nonneg _) (mul_nonneg hε (norm_nonneg z)), mul_pow, Complex.sq_norm, Complex.sq_norm,
    Complex.normSq_apply, Complex.normSq_apply, Complex.sub_re, Complex.sub_im]
  linarith

/-- **magnitude column vs real and imaginary columns**: `| m' − |re' + j im'| | ≤ (δ + ε)·|z|` -/
theorem C19_polar (z z' : ℂ) (m' ε δ : ℝ) (hε : 0 ≤ ε)
    (hre : |z'.re - z.re| ≤ ε * |z.re|) (him : |z'.im - z.im| ≤ ε * |z.im|)
    (hm : |m' - ‖z‖| ≤ δ * ‖z‖) :
    |m' - ‖z'‖| ≤ (δ + ε) * ‖z‖ := by
  have hp := parts_close z z' ε hε hre him
  rw [norm_sub_rev] at hp
  calc |m' - ‖z'‖| ≤ |m' - ‖z‖| + |‖z‖ - ‖z'‖| := abs_sub_le _ _ _
    _ ≤ δ * ‖z‖ + ε * ‖z‖ := add_le_add hm ((abs_norm_sub_norm_le z z').trans hp)
    _ = (δ + ε) * ‖z‖ := (add_mul _ _ _).symm

/-- with the bounds of the printed fields (seven digits: 5e-7; six digits for a field in 0.1…1: 5e-6) the
magnitude column agrees with the modulus of the printed parts to 1.0e-5 of the modulus in every case -/
theorem C19_polar_digits (z z' : ℂ) (m' ε δ : ℝ) (hε : 0 ≤ ε) (hε' : ε ≤ 5e-6) (hδ : δ ≤ 5e-6)
    (hre : |z'.re - z.re| ≤ ε * |z.re|) (him : |z'.im - z.im| ≤ ε * |z.im|)
    (hm : |m' - ‖z‖| ≤ δ * ‖z‖) :
    |m' - ‖z'‖| ≤ 1e-5 * ‖z‖ :=
  (C19_polar z z' m' ε δ hε hre him hm).trans (mul_le_mul_of_nonneg_right (by linarith) (norm_nonneg z))

/-! 3 + 4j printed as 3.0000001 + 4j with magnitude 5.000001 -/
example : ∃ z z' : ℂ, ∃ m' : ℝ, |z'.re - z.re| ≤ 5e-7 * |z.re| ∧ |z'.im - z.im| ≤ 5e-7 * |z.im| ∧ z ≠ 0 := by
  refine ⟨⟨3, 4⟩, ⟨3.0000001, 4⟩, 5.000001, ?_, ?_, ?_⟩
  · norm_num [abs_of_nonneg]
  · norm_num
  · intro h; have := congrArg Complex.re h; simp at this

end Pmn.Props.C19b
