/-
C05 (second file) — electromagnetic scaling: an antenna scaled by `s > 0` in every dimension (positions, segment lengths,
radii) at wavelength `s·λ` (frequency `f/s`) has the impedance matrix `Z / s` and the right-hand side `rhs / s`, hence the
same currents and feed impedances.  The implemented potential integral is dimensionless (`psi_scale`: Gauss order,
exact-kernel and small-radius decisions included), and every term of an entry is a reciprocal length.
-/
import Pmn.Props.C05
import Pmn.Proofs.Vec
import Pmn.Proofs.Lin

namespace Pmn.Props.C05b
open Pmn.Fill Pmn.Geom Pmn.Far Pmn.Props.C05

/-- the scaled half.  The wire constant `i6` of the exact kernel comes with the table; that it is a reciprocal length
(segment.py: `(1 + log (16 r / len)) / π / r`) is put in here, not derived -/
noncomputable def scaleSide (s : ℝ) (x : Side ℝ) : Side ℝ :=
  { x with len := s * x.len, r := s * x.r, i6 := x.i6 / s, fend := vsmul s x.fend }

noncomputable def scalePulse (s : ℝ) (p : PulseD ℝ) : PulseD ℝ :=
  { p with pt := vsmul s p.pt, s0 := scaleSide s p.s0, s1 := scaleSide s p.s1 }

/-- the same physics at wavelength `s·λ` -/
noncomputable def scaleCtx (s : ℝ) (c : Ctx ℝ) : Ctx ℝ :=
  { c with w := c.w / s, w2 := c.w2 / (s * s), srm := s * c.srm }

theorem side_scale (s : ℝ) (p : PulseD ℝ) (pos : Bool) : side (scalePulse s p) pos = scaleSide s (side p pos) := by
  cases pos <;> rfl

theorem norm_vsmul (s : ℝ) (hs : 0 ≤ s) (v : V3 ℝ) : V3.norm (vsmul s v) = s * V3.norm v := by
  rw [show vsmul s v = smulV s v from rfl, Pmn.Vec.norm_smulV, abs_of_nonneg hs]

theorem vsmul_lin (s t : ℝ) (a b : V3 ℝ) :
    vadd (vsmul s a) (vsmul t (vsub (vsmul s b) (vsmul s a))) = vsmul s (vadd a (vsmul t (vsub b a))) := by
  simp only [vadd, vsmul, vsub, V3.mk.injEq]
  refine ⟨?_, ?_, ?_⟩ <;> ring

/-- the integrand is a reciprocal length: scaled by `1/s` -/
theorem integrand_scale (c : Ctx ℝ) (s : ℝ) (hs : 0 < s) (t : ℝ) (u v : V3 ℝ) (kneg : Bool) (r : ℝ) (e : Bool) :
    integrand (scaleCtx s c) t (vsmul s u) (vsmul s v) kneg (s * r) e
      = Cx.scale (1 / s) (integrand c t u v kneg r e) := by
  have hss : s * s ≠ 0 := mul_ne_zero hs.ne' hs.ne'
  unfold integrand
  simp only [← apply_ite (vsmul s), vsmul_lin, norm_vsmul s hs.le, scaleCtx, mul_lt_mul_iff_right₀ hs]
  generalize V3.norm (_ : V3 ℝ) = d
  -- squares of lengths carry `s²`, which cancels in the arguments of `ellipk` and `log` and leaves the root as `s`
  simp only [mul_mul_mul_comm s _ s, mul_left_comm _ (s * s), ← mul_add, mul_div_mul_left _ _ hss, HasSqrt.sqrt,
    Real.sqrt_mul (mul_self_nonneg s), Real.sqrt_mul_self hs.le, ← mul_ite]
  generalize (if decide (c.srm < r) = true then Real.sqrt (r * r + d * d) else d) = D
  -- the phase `d'·w` does not change; what is left is homogeneous of degree −1 in `r`, `d'`
  rw [show s * D * (c.w / s) = D * c.w by field_simp]
  generalize cis (-(D * c.w)) = E
  generalize c.ellipk _ * _ + _ = X
  apply CxC.toC_inj
  split <;> simp only [to_complex] <;> ring

/-- the fold is spelled as in `psi`, for the `simp only` of `psi_scale` to match -/
theorem gauss_sum_scale (L : List (ℝ × ℝ)) (g : ℝ × ℝ → Cx ℝ) (a : ℝ) :
    L.foldl (fun acc xw => (⟨acc.re + xw.2 * (Cx.scale a (g xw)).re, acc.im + xw.2 * (Cx.scale a (g xw)).im⟩ : Cx ℝ)) cxZero
      = Cx.scale a (L.foldl (fun acc xw => (⟨acc.re + xw.2 * (g xw).re, acc.im + xw.2 * (g xw).im⟩ : Cx ℝ)) cxZero) := by
  have h0 : (cxZero : Cx ℝ) = Cx.scale a cxZero := by simp [cxZero, Cx.scale]
  conv_lhs => rw [h0]
  refine List.foldl_hom (Cx.scale a) fun x y => ?_
  simp only [Cx.scale, Cx.mk.injEq]
  constructor <;> ring

/-- **the implemented potential integral is dimensionless**: unchanged when all lengths (the two
vector arguments, segment length, radius, small-radius limit) are multiplied by `s > 0`, the wave
number and the exact-kernel wire constant divided by `s` -/
theorem psi_scale (c : Ctx ℝ) (s : ℝ) (hs : 0 < s) (u v : V3 ℝ) (kneg : Bool) (sc : ℝ) (pos : Bool)
    (pj : PulseD ℝ) (x f : Bool) :
    psi (scaleCtx s c) (vsmul s u) (vsmul s v) kneg sc pos (scalePulse s pj) x f = psi c u v kneg sc pos pj x f := by
  unfold psi
  rw [side_scale]
  generalize side pj pos = sd
  simp only [scaleSide, norm_vsmul s hs.le, ← mul_add, mul_div_mul_left _ _ hs.ne', integrand_scale c s hs,
    gauss_sum_scale]
  -- by equations, not by unfolding `scaleCtx`: a definitional step leaves the `Decidable` instances of the comparisons behind
  rw [show (scaleCtx s c).exactT = c.exactT from rfl, show (scaleCtx s c).g2 = c.g2 from rfl,
    show (scaleCtx s c).g4 = c.g4 from rfl]
  simp only [scaleCtx, mul_le_mul_iff_right₀ hs]
  generalize List.foldl _ _ _ = Q
  generalize (x && decide (_ ≤ c.exactT)) = E
  -- the Gauss sum and the wire constant are reciprocal lengths, multiplied by a length
  have h : ∀ z : ℝ, 1 / s * z * (sc * (s * sd.len)) = z * (sc * sd.len) := fun z => by field_simp
  split
  · congr 2; field_simp
  · cases E <;>
      simp only [Cx.scale, Bool.false_eq_true, if_false, if_true, ← one_div_mul_eq_div s sd.i6, ← mul_add, h]

theorem endseg_scale (s : ℝ) (p : PulseD ℝ) (pos : Bool) (a : ℝ) :
    endseg (scalePulse s p) pos a = vsmul s (endseg p pos a) := by
  unfold endseg
  rw [side_scale]
  simp only [scaleSide, scalePulse, vadd, vsmul, vsub, V3.mk.injEq]
  refine ⟨?_, ?_, ?_⟩ <;> ring

theorem dvecs_scale (s : ℝ) (p : PulseD ℝ) (pos : Bool) (a : ℝ) :
    dvecs (scalePulse s p) pos a = (vsmul s (dvecs p pos a).1, vsmul s (dvecs p pos a).2) := by
  unfold dvecs
  cases pos <;> simp only [endseg_scale, Bool.false_eq_true, if_false, if_true] <;> rfl

theorem rel_scale (k s : ℝ) (a b : V3 ℝ) : vsub (kmul k (vsmul s a)) (vsmul s b) = vsmul s (vsub (kmul k a) b) := by
  simp only [vsub, kmul, vsmul, V3.mk.injEq]
  refine ⟨?_, ?_, ?_⟩ <;> ring

theorem obsVec_scale (s : ℝ) (p : PulseD ℝ) : obsVec (scalePulse s p) = vsmul s (obsVec p) := by
  simp only [obsVec, scalePulse, scaleSide, vadd, vsmul, V3.mk.injEq]
  refine ⟨?_, ?_, ?_⟩ <;> ring

theorem srcProj_scale (k s : ℝ) (x : Side ℝ) (z : V3 ℝ) :
    srcProj k (scaleSide s x) (vsmul s z) = s * srcProj k x z := by
  simp only [srcProj, scaleSide, vsmul, V3.dot]; ring

/-- **every term of an entry is a reciprocal length**, for every pair of functionals related like `psi` at the two
wavelengths (`psi_scale`) -/
theorem entryK8_scale (Ψ Ψ' : PsiFn ℝ) (c : Ctx ℝ) (s : ℝ) (hs : 0 < s)
    (hΨ : ∀ u v kneg sc pos pj x f, Ψ' (vsmul s u) (vsmul s v) kneg sc pos (scalePulse s pj) x f = Ψ u v kneg sc pos pj x f)
    (k : ℝ) (kneg : Bool) (pi pj : PulseD ℝ) (xct : Bool) (f8 : Nat) :
    entryK8 Ψ' (scaleCtx s c) k kneg (scalePulse s pi) (scalePulse s pj) xct f8
      = Cx.scale (1 / s) (entryK8 Ψ c k kneg pi pj xct f8) := by
  have hw : ∀ l : ℝ, c.w / s * (s * l) = c.w * l := fun l => by field_simp
  have e : (scalePulse s pi).pt = vsmul s pi.pt := rfl
  simp only [entryK8_eq, side_scale, obsVec_scale, srcProj_scale]
  -- the potentials are dimensionless
  simp only [vecpot, scapot, side_scale, dvecs_scale, endseg_scale, e, rel_scale, hΨ, scaleSide, scaleCtx,
    mul_lt_mul_iff_right₀ hs, mul_div_mul_left _ _ hs.ne', hw]
  exact assemble_scale s hs.ne' c.w2 _ _ _ (fun pos => (side pj pos).len) _ k f8

/-- the implemented fill of the scaled antenna at the scaled wavelength is `1/s` times the original, shortcut
classes included -/
theorem C05_scale_entry (c : Ctx ℝ) (s : ℝ) (hs : 0 < s) (k : ℝ) (kneg : Bool) (pi pj : PulseD ℝ) (xct : Bool)
    (f8 : Nat) :
    entryK8 (psi (scaleCtx s c)) (scaleCtx s c) k kneg (scalePulse s pi) (scalePulse s pj) xct f8
      = Cx.scale (1 / s) (entryK8 (psi c) c k kneg pi pj xct f8) :=
  entryK8_scale _ _ c s hs (psi_scale c s hs) k kneg pi pj xct f8

/-- **scaling theorem for the matrix**: the antenna scaled by `s` at wavelength `s λ` has the matrix
`Z / s`, in free space and over ground -/
theorem C05_scale (c : Ctx ℝ) (s : ℝ) (hs : 0 < s) (g : Bool) (pi pj : PulseD ℝ) (xct : Bool) :
    entryAlgo (scaleCtx s c) g (scalePulse s pi) (scalePulse s pj) xct
      = Cx.scale (1 / s) (entryAlgo c g pi pj xct) := by
  unfold entryAlgo
  have hl : ((scalePulse s pi).s0.len == (scalePulse s pj).s0.len) = (pi.s0.len == pj.s0.len) :=
    decide_eq_decide.mpr (mul_right_inj' hs.ne')
  have ef : f8Of (scalePulse s pi) (scalePulse s pj) = f8Of pi pj := by
    unfold f8Of; rw [hl]; rfl
  exact both_passes _ (CxC.cx_scale_add _) rfl (ef ▸ C05_scale_entry c s hs _ _ pi pj xct _)
    fun _ => C05_scale_entry c s hs _ _ pi pj xct _

/-- with `Z' = Z / s` and `rhs' = rhs / s` (the excitation weight `−j g V / m`, `m ∝ λ`) the solution
is the same: currents and feed impedances do not change under the (s, f/s) scaling -/
theorem C05_scale_currents {n : Type} [Fintype n] [DecidableEq n] (Z : Matrix n n ℂ) (b I I' : n → ℂ) (a : ℂ)
    (ha : a ≠ 0) (hZ : IsUnit Z.det) (h : Z.mulVec I = b) (h' : (a • Z).mulVec I' = a • b) : I' = I := by
  apply Pmn.Lin.mulVec_injective hZ
  rw [h]
  rw [Matrix.smul_mulVec] at h'
  exact smul_right_injective _ ha h'

end Pmn.Props.C05b
