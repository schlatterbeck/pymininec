/-
C20 — the command line is fail-safe.

The `except` clauses of the *current* source (names regenerated from the AST on every run) catch every exception of the
kernel within `kernelRaises` and of the output stage within `outputRaises`, results that are not finite become the
diagnostic, and the decision table of the validation front end yields only usage error, diagnostic or report.  So the
outcome of `main` is one of these three: for one arbitrary numeric input with everything else valid, for any number of
inputs at once under the composition rule `composeOutcome`, and with the requested results taken into account
(`composeSel`).  That `composeOutcome` and `composeSel` are what `main` does with several malformed values at once rests
on the fuzzing correspondence, not on a theorem.
-/
import Pmn.Model.Guard

namespace Pmn.Props.C20
open Pmn.Guard

def Outcome.ok : Outcome → Bool
  | .usage => true | .diag => true | .report => true | _ => false

/-- the clause around the compute loop catches every kernel exception -/
theorem C20_kernel_caught : ∀ e ∈ kernelRaises, caughtBy Pmn.Const.kernelCaught e = true := by decide

/-- the clause around the construction of the model catches value and arithmetic errors -/
theorem C20_setup_caught :
    ∀ e ∈ [Exc.ValueError, .LinAlgError, .ZeroDivisionError, .OverflowError, .FloatingPointError, .ArithmeticError],
      caughtBy Pmn.Const.setupCaught e = true := by decide

/-- **kernel guard**: whatever the numerical part does (finite results, non-finite results, any
exception of `kernelRaises`), `main` ends with the report or the diagnostic -/
theorem C20_kernel_guard (k : Kernel) (h : ∀ e, k = .raises e → e ∈ kernelRaises) :
    wrapKernel Pmn.Const.kernelCaught k = .report ∨ wrapKernel Pmn.Const.kernelCaught k = .diag := by
  cases k with
  | finite => left; rfl
  | notFinite => right; rfl
  | raises e => exact .inr (if_pos (C20_kernel_caught e (h e rfl)))

/-- the clause around the output files catches every exception of the output stage -/
theorem C20_output_caught : ∀ e ∈ outputRaises, caughtBy Pmn.Const.outputCaught e = true := by decide

/-- **output guard**: whatever writing the output files does, `main` either carries on or ends with the
diagnostic -/
theorem C20_output_guard (o : Output) (h : ∀ e, o = .raises e → e ∈ outputRaises) :
    wrapOutput Pmn.Const.outputCaught o = none ∨ wrapOutput Pmn.Const.outputCaught o = some .diag := by
  cases o with
  | notRequested => left; rfl
  | written => left; rfl
  | raises e => exact .inr (if_pos (C20_output_caught e (h e rfl)))

theorem mem_all_fields (f : Field) : f ∈ Field.all := by cases f <;> decide
theorem mem_all_classes (c : NumClass) : c ∈ NumClass.all := by cases c <;> decide

/-- the decision table and the stage table evaluated once, cell by cell -/
theorem table_cell (f : Field) (c : NumClass) :
    Outcome.ok (expected f c) = true ∧ (expected f c = .report → harmless f c = true) ∧
      (stage f c ≠ .always → expected f c = .diag) := by
  have : ∀ f ∈ Field.all, ∀ c ∈ NumClass.all,
      Outcome.ok (expected f c) = true ∧ (expected f c = .report → harmless f c = true) ∧
        (stage f c ≠ .always → expected f c = .diag) := by decide
  exact this f (mem_all_fields f) c (mem_all_classes c)

/-- **validation table**: every entry is a usage error, a diagnostic or a report -/
theorem C20_table (f : Field) (c : NumClass) : Outcome.ok (expected f c) = true := (table_cell f c).1

/-- a value that validation lets through to a report is one the kernel can handle -/
theorem C20_accepted_harmless (f : Field) (c : NumClass) (h : expected f c = .report) :
    harmless f c = true := (table_cell f c).2.1 h

/-- `main` for one arbitrary numeric input: validation, then (if accepted) the guarded output stage and kernel -/
def mainOutcome (f : Field) (c : NumClass) (o : Output) (k : Kernel) : Outcome :=
  match expected f c with
  | .report =>
    match wrapOutput Pmn.Const.outputCaught o with
    | some r => r
    | none => wrapKernel Pmn.Const.kernelCaught k
  | r => r

/-- the `match` is the body shared by `mainOutcome`, `mainOutcomeMulti` and `mainOutcomeSel`, `x` being their validation
outcome; the lemma applies to them by unfolding -/
theorem guarded_ok (x : Outcome) (o : Output) (k : Kernel)
    (ho : ∀ e, o = .raises e → e ∈ outputRaises) (h : ∀ e, k = .raises e → e ∈ kernelRaises) :
    Outcome.ok x = true → Outcome.ok (match x with
      | .report =>
        match wrapOutput Pmn.Const.outputCaught o with
        | some r => r
        | none => wrapKernel Pmn.Const.kernelCaught k
      | r => r) = true := by
  cases x with
  | report =>
    intro _
    rcases C20_output_guard o ho with h0 | h0 <;> rw [h0]
    · rcases C20_kernel_guard k h with h1 | h1 <;> rw [h1] <;> rfl
    · rfl
  | _ => exact id

/-- **trichotomy** (partial: one malformed numeric input at a time): the outcome is the usage
error, the diagnostic or the report — never an escaped exception, never non-finite output -/
theorem C20_trichotomy_partial (f : Field) (c : NumClass) (o : Output) (k : Kernel)
    (ho : ∀ e, o = .raises e → e ∈ outputRaises)
    (h : ∀ e, k = .raises e → e ∈ kernelRaises) : Outcome.ok (mainOutcome f c o k) = true :=
  guarded_ok _ o k ho h (C20_table f c)

/-- `main` for any number of numeric inputs given at once (one value class per input) -/
def mainOutcomeMulti (inputs : List (Field × NumClass)) (o : Output) (k : Kernel) : Outcome :=
  match composeOutcome (inputs.map fun fc => expected fc.1 fc.2) with
  | .report =>
    match wrapOutput Pmn.Const.outputCaught o with
    | some r => r
    | none => wrapKernel Pmn.Const.kernelCaught k
  | r => r

theorem composeOutcome_report_iff (os : List Outcome) : composeOutcome os = .report ↔ ∀ o ∈ os, o = .report := by
  unfold composeOutcome
  split
  · rename_i hu
    obtain ⟨o, ho, he⟩ := List.any_eq_true.mp hu
    exact ⟨nofun, fun h => by rw [h o ho] at he; cases he⟩
  · cases hf : os.find? (· != .report) with
    | none => simpa using hf
    | some o =>
      have hne : o ≠ .report := by simpa using List.find?_some hf
      exact ⟨fun h => absurd h hne, fun h => absurd (h o (List.mem_of_find?_eq_some hf)) hne⟩

theorem composeOutcome_ok (os : List Outcome) (h : ∀ o ∈ os, Outcome.ok o = true) :
    Outcome.ok (composeOutcome os) = true := by
  unfold composeOutcome
  split
  · rfl
  · cases hf : os.find? (· != .report) with
    | none => rfl
    | some o => exact h o (List.mem_of_find?_eq_some hf)

/-- **trichotomy for several inputs at once**: whatever value classes any number of the numeric inputs hold together, the
outcome is the usage error, the diagnostic or the report (composition rule `composeOutcome`: a usage error of any input
first, else the first diagnostic) -/
theorem C20_trichotomy_multi (inputs : List (Field × NumClass)) (o : Output) (k : Kernel)
    (ho : ∀ e, o = .raises e → e ∈ outputRaises)
    (h : ∀ e, k = .raises e → e ∈ kernelRaises) : Outcome.ok (mainOutcomeMulti inputs o k) = true :=
  guarded_ok _ o k ho h (composeOutcome_ok _ (List.forall_mem_map.mpr fun fc _ => C20_table fc.1 fc.2))

/-- a run with all inputs accepted is a report only if each of them is of a harmless class -/
theorem C20_multi_accepted_harmless (inputs : List (Field × NumClass))
    (h : composeOutcome (inputs.map fun fc => expected fc.1 fc.2) = .report) :
    ∀ fc ∈ inputs, harmless fc.1 fc.2 = true := fun fc hfc =>
  C20_accepted_harmless _ _ ((composeOutcome_report_iff _).mp h _ (List.mem_map.mpr ⟨fc, hfc, rfl⟩))

/-- `main` with the result options taken into account -/
def mainOutcomeSel (opts : List ResOpt) (nearGiven : Bool) (inputs : List (Field × NumClass)) (o : Output) (k : Kernel) :
    Outcome :=
  match composeSel opts nearGiven inputs with
  | .report =>
    match wrapOutput Pmn.Const.outputCaught o with
    | some r => r
    | none => wrapKernel Pmn.Const.kernelCaught k
  | r => r

theorem expectedSel_ok (s : Selection) (rows : Bool) (f : Field) (c : NumClass) :
    Outcome.ok (expectedSel s rows f c) = true := by
  unfold expectedSel
  split
  · split <;> rfl
  · exact C20_table f c

theorem composeSel_ok (opts : List ResOpt) (nearGiven : Bool) (inputs : List (Field × NumClass)) :
    Outcome.ok (composeSel opts nearGiven inputs) = true := by
  unfold composeSel
  split <;> apply composeOutcome_ok
  · simp only [List.mem_append, List.mem_map, List.mem_singleton]
    rintro _ (⟨fc, _, rfl⟩ | rfl)
    · exact C20_table fc.1 fc.2
    · rfl
  · exact List.forall_mem_map.mpr fun fc _ => expectedSel_ok _ _ fc.1 fc.2

/-- **trichotomy with the result options**: whatever results are requested (any list of `--option`, `--near-field` present or
not) and whatever value classes any number of inputs hold, the outcome is the usage error, the diagnostic or the report -/
theorem C20_trichotomy_sel (opts : List ResOpt) (nearGiven : Bool) (inputs : List (Field × NumClass)) (o : Output) (k : Kernel)
    (ho : ∀ e, o = .raises e → e ∈ outputRaises)
    (h : ∀ e, k = .raises e → e ∈ kernelRaises) : Outcome.ok (mainOutcomeSel opts nearGiven inputs o k) = true :=
  guarded_ok _ o k ho h (composeSel_ok opts nearGiven inputs)

/-- the default: no `--option` means the near field when `--near-field` parameters are given and the far field (in dBi)
otherwise; `none` alone computes neither; `near-field` without parameters is the diagnostic -/
theorem C20_select_default (nearGiven : Bool) :
    select [] nearGiven = some { far := !nearGiven, farAbs := false, near := nearGiven } ∧
    select [.none] nearGiven = some { far := false, farAbs := false, near := false } ∧
    select [.nearField] false = none := by
  cases nearGiven <;> decide

/-- the diagnostic "Option near-field needs --near-field parameters" whatever else is on the command line (unless `argparse`
rejects it first) -/
theorem C20_near_needs_parameters (opts : List ResOpt) (inputs : List (Field × NumClass)) (h : ResOpt.nearField ∈ opts) :
    composeSel opts false inputs = .usage ∨ composeSel opts false inputs = .diag := by
  have hok := composeSel_ok opts false inputs
  have hne : composeSel opts false inputs ≠ .report := by
    have hs : select opts false = none := by simp [select, h]
    rw [composeSel, hs]
    exact fun hr => nomatch (composeOutcome_report_iff _).mp hr .diag (by simp)
  cases hc : composeSel opts false inputs <;> simp_all [Outcome.ok]

/-- an input that only a result which is not computed looks at cannot end the run with its diagnostic; an input that is
validated while the model is built does so whatever is requested -/
theorem C20_unselected_silent (s : Selection) (rows : Bool) (f : Field) (c : NumClass) :
    (s.runs rows (stage f c) = false → expectedSel s rows f c ≠ .diag) ∧
    (s.runs rows (stage f c) = true → expectedSel s rows f c = expected f c) := by
  unfold expectedSel
  constructor <;> intro h <;> cases expected f c <;> simp [h]

/-- with every result requested (and a far-field table that has rows) the rule is the composition rule for inputs that are all evaluated -/
theorem C20_sel_all (nearGiven : Bool) (inputs : List (Field × NumClass)) (opts : List ResOpt)
    (s : Selection) (hs : select opts nearGiven = some s) (hf : s.far = true) (ha : s.farAbs = true) (hn : s.near = true)
    (hr : farHasRows inputs = true) :
    composeSel opts nearGiven inputs = composeOutcome (inputs.map fun fc => expected fc.1 fc.2) := by
  unfold composeSel
  rw [hs]
  simp only
  congr 1
  apply List.map_congr_left
  intro fc _
  apply (C20_unselected_silent s _ fc.1 fc.2).2
  cases stage fc.1 fc.2 <;> simp [Selection.runs, hf, ha, hn, hr]

/-- only thirteen cells of the table belong to a particular result; every other diagnostic is independent of the request -/
theorem C20_stage_cells :
    (Field.all.flatMap fun f => (NumClass.all.filter fun c => stage f c != .always).map fun c => (f, c)).length = 13 := by
  decide

/-- each cell that belongs to a particular result is a diagnostic in the table (the stage matters only there) -/
theorem C20_stage_only_diag (f : Field) (c : NumClass) (h : stage f c ≠ .always) : expected f c = .diag :=
  (table_cell f c).2.2 h

-- an infinite azimuth step next to a near-field request is a report (only the near field is computed); with the far
-- field requested it is the diagnostic
example : composeSel [] true [(.phiInc, .inf), (.nfPower, .zero)] = .report ∧
    composeSel [.farField, .nearField] true [(.phiInc, .inf), (.nfPower, .zero)] = .diag := by decide

-- a negative number of radials is noticed in the values of the far-field directions; with no direction at all (a
-- zenith count of zero or less) the run is a report with an empty pattern
example : composeSel [] false [(.radialCount, .neg)] = .diag ∧
    composeSel [] false [(.thetaCount, .neg), (.radialCount, .neg)] = .report ∧
    composeSel [] false [(.thetaCount, .neg), (.phiInc, .inf)] = .diag := by decide

/-- the former `main` had no clause around the compute loop: a kernel exception escaped -/
theorem C20_defect_witness : wrapKernel [] (.raises .ZeroDivisionError) = .crash .ZeroDivisionError := by
  decide

/-- the former `main` opened the output files outside any clause: an unwritable path escaped as a traceback,
and so did the `NotImplementedError` of a load combination BASIC cannot express -/
theorem C20_output_defect_witness :
    wrapOutput [] (.raises .FileNotFoundError) = some (.crash .FileNotFoundError) ∧
    wrapOutput ["OSError"] (.raises .NotImplementedError) = some (.crash .NotImplementedError) := by
  decide

/-- the former clause (`OSError`, `NotImplementedError`) let the `OverflowError` of `'%g' % <400-digit count>` through -/
theorem C20_output_defect_witness2 :
    wrapOutput ["OSError", "NotImplementedError"] (.raises .OverflowError) = some (.crash .OverflowError) := by
  decide

example : expected .frequency .pos = .report ∧ expected .frequency .zero = .diag := by decide
-- a kernel that raises meets the hypothesis on `k`
example : ∀ e, Kernel.raises Exc.OverflowError = .raises e → e ∈ kernelRaises := by
  intro e h; cases h; decide

end Pmn.Props.C20
