/-
C15 (continued) — the attachment forms chosen by `as_cmdline_load_attach` denote exactly the
attached pulses, with multiplicity; the distributed-load options come back as written (`C15_dist`).
-/
import Pmn.Model.Cmd
import Mathlib.Data.List.Nodup
import Mathlib.Data.List.Flatten

namespace Pmn.Props.C15b
open Pmn.Cmd

theorem find_tag (objs : List (Nat × List Nat)) (h : (objs.map (·.1)).Nodup) (o : Nat × List Nat)
    (ho : o ∈ objs) : objs.find? (·.1 = o.1) = some o := by
  induction objs with
  | nil => simp at ho
  | cons a r ih =>
    simp only [List.map_cons, List.nodup_cons] at h
    rcases List.mem_cons.mp ho with rfl | ho'
    · simp
    · have hne : ¬ (a.1 = o.1) := by
        intro e; apply h.1; rw [e]; exact List.mem_map_of_mem ho'
      simp [hne, ih h.2 ho']

theorem expand_allObj (objs : List (Nat × List Nat)) (h : (objs.map (·.1)).Nodup) (o : Nat × List Nat)
    (ho : o ∈ objs) : expandAtt objs (.allObj o.1) = o.2 := by
  simp [expandAtt, find_tag objs h o ho]

theorem flatMap_expand_pulse (objs : List (Nat × List Nat)) (l : List Nat) :
    (l.map Att.pulse).flatMap (expandAtt objs) = l := by
  simp [List.flatMap_map, expandAtt]

theorem countOf_eq_count (x : Nat) (l : List Nat) : countOf x l = l.count x :=
  List.count_eq_length_filter.symm

theorem expand_normAtt (objs : List (Nat × List Nat)) (attached : List Nat) (htags : (objs.map (·.1)).Nodup) :
    (normAtt true objs attached).flatMap (expandAtt objs) =
      (objs.filter (objAll true attached)).flatMap (·.2) ++
        attached.filter fun p => !((objs.filter (objAll true attached)).any fun o => o.2.contains p) := by
  unfold normAtt
  simp only [List.flatMap_append, flatMap_expand_pulse]
  congr 1
  split
  · -- `N,all`: every object is written as a whole
    rename_i hall
    simp only [Bool.and_eq_true, decide_eq_true_eq] at hall
    rw [List.filter_eq_self.mpr (List.length_filter_eq_length_iff.mp hall.2)]
    simp [expandAtt]
  · rw [List.flatMap_map]
    exact List.flatMap_congr fun o ho => expand_allObj objs htags o (List.mem_filter.mp ho).1

/-- **attachments round trip**: with the repaired rule the written `--attach-load` forms of a load
denote exactly its attached pulses, each as often as it was attached — for any objects with
distinct tags and disjoint pulse lists and any list of attached pulses -/
theorem C15_attach (objs : List (Nat × List Nat)) (attached : List Nat)
    (htags : (objs.map (·.1)).Nodup) (hdisj : (objs.flatMap (·.2)).Nodup) :
    ((normAtt true objs attached).flatMap (expandAtt objs)).Perm attached := by
  rw [expand_normAtt objs attached htags]
  set full := objs.filter (objAll true attached)
  set byNumber : Nat → Bool := fun p => !full.any fun o => o.2.contains p
  have hnum : ∀ q, byNumber q = true ↔ q ∉ full.flatMap (·.2) := by
    simp only [byNumber, Bool.not_eq_true', ← Bool.not_eq_true, List.any_eq_true, List.contains_iff_mem,
      List.mem_flatMap, implies_true]
  have hnd : (full.flatMap (·.2)).Nodup := hdisj.sublist (List.filter_sublist.flatMap _)
  -- every pulse `q` occurs as often on both sides
  refine List.perm_iff_count.mpr fun q => ?_
  rw [List.count_append]
  by_cases hq : q ∈ full.flatMap (·.2)
  · -- a pulse of an object written as a whole: once among these, attached exactly once, not written by number
    obtain ⟨o, ho, hqo⟩ := List.mem_flatMap.mp hq
    have := (List.mem_filter.mp ho).2
    simp only [objAll, if_true, Bool.and_eq_true, List.all_eq_true, decide_eq_true_eq] at this
    rw [List.count_eq_one_of_mem hnd hq, ← countOf_eq_count q attached, this.2 q hqo,
      List.count_eq_zero_of_not_mem fun hm => (hnum q).mp (List.mem_filter.mp hm).2 hq]
  · rw [List.count_eq_zero_of_not_mem hq, List.count_filter ((hnum q).mpr hq), Nat.zero_add]

/-- the former rule (number of attachments on the object = number of its pulses): a load attached
twice to pulse 1 of a wire with pulses 1 and 2 is written as `N,all` and comes back on 1 and 2 -/
theorem C15_attach_defect_witness :
    normAtt false [(1, [1, 2])] [1, 1] = [.all] ∧
    ([Att.all].flatMap (expandAtt [(1, [1, 2])])) = [1, 2] ∧
    normAtt true [(1, [1, 2])] [1, 1] = [.pulse 1, .pulse 1] := by decide

theorem normAtt_ne_nil (objs : List (Nat × List Nat)) (attached : List Nat) (h : attached ≠ []) :
    normAtt true objs attached ≠ [] := by
  unfold normAtt
  intro hnil
  obtain ⟨h1, h2⟩ := List.append_eq_nil_iff.mp hnil
  -- nothing is written as a whole object, so every attached pulse is written by number
  have hf : objs.filter (objAll true attached) = [] := by
    split at h1
    · cases h1
    · exact List.map_eq_nil_iff.mp h1
  simp [hf] at h2
  exact h h2

theorem writeAtt_of_ne_nil (keep : Bool) (objs : List (Nat × List Nat)) (attached : List Nat) (h : attached ≠ []) :
    writeAtt keep objs attached = normAtt true objs attached := by
  simp [writeAtt, h]

theorem writeAtt_nil (objs : List (Nat × List Nat)) :
    (∃ o ∈ objs, o.2 = [] ∧ writeAtt true objs [] = [.allObj o.1]) ∨
      ((∀ o ∈ objs, o.2 ≠ []) ∧ writeAtt true objs [] = []) := by
  simp only [writeAtt, List.isEmpty_nil, if_true]
  cases hf : objs.find? (·.2.isEmpty) with
  | none => exact .inr ⟨fun o ho he => List.find?_eq_none.mp hf o ho (congrArg List.isEmpty he), rfl⟩
  | some o => exact .inl ⟨o, List.mem_of_find?_eq_some hf, by simpa using List.find?_some hf, rfl⟩

/-- **every written load is used** (repaired writer): the attachment list written for a load is non-empty
whenever the load has a pulse or some geo object owns no pulse (the only way `main` builds a load without
pulses is an attachment to all pulses of such an object) — so the reader's "Not all loads were used" cannot
reject the written file -/
theorem C15_attach_used (objs : List (Nat × List Nat)) (attached : List Nat)
    (h : attached ≠ [] ∨ ∃ o ∈ objs, o.2 = []) : writeAtt true objs attached ≠ [] := by
  by_cases ha : attached = []
  · subst ha
    rcases writeAtt_nil objs with ⟨o, _, _, hw⟩ | ⟨hno, _⟩
    · simp [hw]
    · obtain h | ⟨o, ho, he⟩ := h
      · exact absurd rfl h
      · exact absurd he (hno o ho)
  · rw [writeAtt_of_ne_nil _ _ _ ha]
    exact normAtt_ne_nil objs attached ha

/-- **attachments round trip, loads without pulses included** -/
theorem C15_attach_all (objs : List (Nat × List Nat)) (attached : List Nat)
    (htags : (objs.map (·.1)).Nodup) (hdisj : (objs.flatMap (·.2)).Nodup) :
    ((writeAtt true objs attached).flatMap (expandAtt objs)).Perm attached := by
  by_cases ha : attached = []
  · subst ha
    rcases writeAtt_nil objs with ⟨o, ho, he, hw⟩ | ⟨_, hw⟩ <;> rw [hw]
    · simp [expand_allObj objs htags o ho, he]
    · simp
  · rw [writeAtt_of_ne_nil _ _ _ ha]
    exact C15_attach objs attached htags hdisj

/-- the former writer wrote no attachment for a load without pulses: `--load=50 --attach-load=1,all,2` with
a pulse-less object 2 was written as `--load=50` alone, which the reader rejects -/
theorem C15_unused_defect_witness :
    writeAtt false [(1, [1, 2]), (2, [])] [] = [] ∧
    readLoads (writeLoads [⟨.imp, 50, writeAtt false [(1, [1, 2]), (2, [])] []⟩]) = .error "not-all-loads-were-used" ∧
    readLoads (writeLoads [⟨.imp, 50, writeAtt true [(1, [1, 2]), (2, [])] []⟩]) = .ok [⟨.imp, 50, [.allObj 2]⟩] :=
  ⟨rfl, rfl, rfl⟩

theorem writeDist_skip (seen : List Bool) (k : DKind) (par : Nat) (tags : List Nat) (rest : List DLoad)
    (h : seen.contains k.isCoat = true) :
    writeDist true seen (tags.map (fun t => (⟨k, par, t, true⟩ : DLoad)) ++ rest) = writeDist true seen rest := by
  induction tags with
  | nil => rfl
  | cons t r ih =>
    simp only [List.map_cons, List.cons_append, writeDist, Bool.true_or, Bool.true_and, h, if_true]
    exact ih

theorem readDist_cons_some (tags : List Nat) (k : DKind) (par u : Nat) (r : List DOpt) :
    readDist tags (⟨k, par, some u⟩ :: r) = ⟨k, par, u, false⟩ :: readDist tags r := rfl

theorem readDist_cons_none (tags : List Nat) (k : DKind) (par : Nat) (r : List DOpt) :
    readDist tags (⟨k, par, none⟩ :: r) = tags.map (fun t => (⟨k, par, t, true⟩ : DLoad)) ++ readDist tags r := rfl

/-- **distributed loads survive the option round trip**: for every option list `main` accepts
(an untagged option is the first of its class) and every non-empty set of geo objects, writing the
loads `main` built gives back exactly the options, in order — in particular several per-object
skin-effect or insulation loads are all written -/
theorem C15_dist (tags : List Nat) (htags : tags ≠ []) (opts : List DOpt) (seen : List Bool)
    (hv : distValid seen opts = true) :
    writeDist true seen (readDist tags opts) = opts := by
  obtain ⟨t, ts, rfl⟩ := List.exists_cons_of_ne_nil htags
  induction opts generalizing seen with
  | nil => rfl
  | cons o r ih =>
    simp only [distValid, Bool.and_eq_true] at hv
    obtain ⟨ho, hr⟩ := hv
    obtain ⟨k, par, _ | u⟩ := o
    · -- an untagged option, the first of its class: the load on the first object is written, the others are skipped
      have ho : k.isCoat ∉ seen := by simpa using ho
      rw [readDist_cons_none]
      simp [writeDist, ho, writeDist_skip, ih _ hr]
    · rw [readDist_cons_some]
      simp [writeDist, ih _ hr]

-- `hv` is met by several per-object loads of one class
example : distValid [] [⟨.skinCond, 5, some 1⟩, ⟨.skinRes, 3, some 2⟩, ⟨.coat, 7, none⟩] = true := by decide

/-- the former writer (`skip every later load of a class already written`) loses the second
per-object load: the written options do not reproduce the model -/
theorem C15_dist_defect_witness :
    writeDist false [] (readDist [1, 2] [⟨.skinCond, 5, some 1⟩, ⟨.skinCond, 3, some 2⟩])
      = [⟨.skinCond, 5, some 1⟩] := by decide

end Pmn.Props.C15b
