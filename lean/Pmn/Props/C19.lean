/-
C19 — the report text carries the computed values.

`fmtVal x useE` is the decimal number that the text `formatFloat x useE` denotes (the driver
re-reads its own text on every correspondence case and compares with `fmtVal`; the text is
compared string-for-string with `util.format_float`).  The theorems bound the distance of that
number from the exact value of the double, for *every* finite double `x = ± num/den`, by
magnitude class — the classes of the property statement.
-/
import Pmn.Proofs.FmtLemmas

namespace Pmn.Props.C19
open Pmn.Fmt Pmn.FmtLemmas

def sgn (b : Bool) : ℚ := if b then -1 else 1

/-- exact value of the double -/
def fval (x : Frac) : ℚ := sgn x.neg * ((x.num : ℚ) / x.den)

/-- value denoted by a printed decimal -/
def dval (v : DecVal) : ℚ := sgn v.neg * mag v

private theorem abs_sgn (b : Bool) : |sgn b| = 1 := by
  cases b <;> simp [sgn]

private theorem abs_fval (x : Frac) : |fval x| = (x.num : ℚ) / x.den := by
  rw [fval, abs_mul, abs_sgn, one_mul, abs_of_nonneg (by positivity)]

/-- a decimal whose sign flag is dropped exactly when its digits are all zero -/
private theorem dval_of_neg (v : DecVal) (b : Bool) (h : v.neg = (b && v.n != 0)) :
    dval v = sgn b * mag v := by
  unfold dval
  by_cases h0 : v.n = 0
  · simp [mag, h0]
  · rw [h, bne_iff_ne.mpr h0, Bool.and_true]

/-- the constants of the source are `6` digits and the threshold `1/10` -/
theorem C19_constants (x : Frac) (ue : Bool) : fmtVal x ue = fmtValP 6 1 10 x ue := rfl

/-- the printed number carries the sign of the double (or is 0), so the error is that of the magnitudes -/
private theorem err_eq_mag (x : Frac) (ue : Bool) :
    |dval (fmtVal x ue) - fval x| = |mag (fmtValP 6 1 10 x ue) - (x.num : ℚ) / x.den| := by
  have h : dval (fmtValP 6 1 10 x ue) = sgn x.neg * mag (fmtValP 6 1 10 x ue) := by
    by_cases hn : x.num = 0
    · exact dval_of_neg _ _ (by simp [fmtValP, hn])
    by_cases hs : ue = true ∧ x.num * 10 < 1 * x.den
    · rw [hs.1, fmtValP_sci hn hs.2, dval]
    · rw [fmtValP_fixed hn hs, cutVal_eq]
      exact dval_of_neg _ _ rfl
  rw [C19_constants, h, fval, ← mul_sub, abs_mul, abs_sgn, one_mul]

/-- zero (of either sign) is printed as the number 0 -/
theorem C19_zero (x : Frac) (ue : Bool) (h : x.num = 0) : dval (fmtVal x ue) = 0 := by
  simp [fmtVal, fmtValP, h, dval, mag]

/-- six printed decimals for 0.1 ≤ |f| < 1: absolute error ≤ 5e-7, hence ≤ 5e-6 relative -/
theorem C19_frac (x : Frac) (ue : Bool) (hd : 0 < x.den) (h1 : x.num < x.den)
    (h2 : x.den ≤ 10 * x.num) :
    |dval (fmtVal x ue) - fval x| ≤ 5 / 10 ^ 7 ∧ 5 / 10 ^ 7 ≤ 5 / 10 ^ 6 * |fval x| := by
  have hprec : precOf 6 x.num x.den = 6 := by rw [precOf_of_lt 6 h1, ilogLt1_eq_zero _ h2]
  have hy : (1 : ℚ) / 10 ≤ (x.num : ℚ) / x.den := by
    rw [div_le_div_iff₀ (by norm_num) (by exact_mod_cast hd)]
    exact_mod_cast (by omega : 1 * x.den ≤ x.num * 10)
  rw [err_eq_mag, abs_fval, fmtValP_fixed (by omega) (by omega), hprec]
  refine ⟨(fixed_err_exact _ hd le_rfl fun _ => by omega).trans (by norm_num), by linarith⟩

/-- seven printed digits for |f| ≥ 1: relative error ≤ 5e-7 -/
theorem C19_ge1 (x : Frac) (ue : Bool) (hd : 0 < x.den) (h1 : x.den ≤ x.num) :
    |dval (fmtVal x ue) - fval x| ≤ 5 / 10 ^ 7 * |fval x| := by
  have hprec := precOf_of_ge 6 h1
  obtain ⟨hlo, hhi⟩ := ilogGe1_spec h1 (lt_pow_self_mul hd)
  generalize ilogGe1 x.num x.num x.den = e at hprec hlo hhi
  -- with decimals there are `e + 1` integer digits and `6 − e` decimals: seven digits
  have h7 : 6 - e ≠ 0 → x.num * 10 ^ (6 - e) < 10 ^ 7 * x.den := fun hp => by
    calc x.num * 10 ^ (6 - e) < 10 ^ (e + 1) * x.den * 10 ^ (6 - e) :=
          Nat.mul_lt_mul_of_pos_right hhi (by positivity)
      _ = 10 ^ 7 * x.den := by rw [mul_right_comm, ← pow_add]; congr 2; omega
  have hy : (10 : ℚ) ^ e ≤ (x.num : ℚ) / x.den := by
    rw [le_div_iff₀ (by exact_mod_cast hd)]
    exact_mod_cast hlo
  -- the rounding unit `10^-(6−e)` is at most `10^(e−6)`, with equality while there are decimals
  have hu : (10 : ℚ) ^ 6 ≤ 10 ^ e * 10 ^ (6 - e) := by
    rw [← pow_add]
    exact pow_le_pow_right₀ (by norm_num) (by omega)
  rw [err_eq_mag, abs_fval, fmtValP_fixed (by omega) (by omega), hprec]
  calc _ ≤ 1 / 2 / 10 ^ (6 - e) := fixed_err_exact _ hd (Nat.sub_le 6 e) h7
    _ ≤ 5 / 10 ^ 7 * 10 ^ e := by
      rw [div_le_iff₀ (by positivity)]
      linarith
    _ ≤ 5 / 10 ^ 7 * ((x.num : ℚ) / x.den) := mul_le_mul_of_nonneg_left hy (by norm_num)

/-- fixed-point fields below 0.1: absolute error < 1e-6 (rounding at 6+k decimals, cut to 6) -/
theorem C19_fixed_small (x : Frac) (hd : 0 < x.den) (h0 : 0 < x.num) (h1 : 10 * x.num < x.den) :
    |dval (fmtVal x false) - fval x| < 1 / 10 ^ 6 := by
  have hlt : x.num < x.den := by omega
  have hprec := precOf_of_lt 6 hlt
  obtain ⟨hlo, hhi⟩ := ilogLt1_spec hlt (lt_pow_self_mul h0)
  generalize ilogLt1 x.den x.num x.den = k at hprec hlo hhi
  have hk : k ≠ 0 := by rintro rfl; omega
  rw [err_eq_mag, fmtValP_fixed (by omega) (by simp), hprec]
  generalize hn : roundHalfEven (x.num * 10 ^ (6 + k)) x.den = n
  -- `|f|·10^(6+k) < 10^6`: the integer part is 0 and the cut drops the last `k` digits of `n`
  have hnle : n ≤ 10 ^ 6 := hn ▸ roundHalfEven_le_of_lt hd (by rw [pow_add]; linarith)
  have hc : cutDigits n (6 + k) = k := by
    rw [cutDigits_of_lt (hnle.trans_lt (Nat.pow_lt_pow_right (by norm_num) (by omega))), Nat.add_sub_cancel_left]
  have hm : ((n % 10 ^ k : Nat) : ℚ) + 1 ≤ 10 ^ k := by exact_mod_cast Nat.mod_lt n (by positivity)
  refine (fixed_err x.neg x.num x.den (6 + k) hd hn).trans_lt ?_
  rw [hc, pow_add, div_mul_eq_div_div_swap, div_lt_div_iff_of_pos_right (by positivity), div_lt_one (by positivity)]
  linarith

/-- exponent-format fields (0 < |f| < 0.1 with use_e): seven digits, relative error ≤ 5e-7 -/
theorem C19_sci (x : Frac) (hd : 0 < x.den) (h0 : 0 < x.num) (h1 : 10 * x.num < x.den) :
    |dval (fmtVal x true) - fval x| ≤ 5 / 10 ^ 7 * |fval x| := by
  rw [err_eq_mag, abs_fval, fmtValP_sci (by omega) (by omega)]
  exact sciParts_rel_err _ h0 hd

/-! the hypotheses of the four magnitude classes are met (−2.347928e-6 as a fraction, 0.5, 123.456) -/
example : let x : Frac := ⟨true, 2347928, 10 ^ 12⟩; 0 < x.den ∧ 0 < x.num ∧ 10 * x.num < x.den := by
  decide
example : let x : Frac := ⟨false, 1, 2⟩; 0 < x.den ∧ x.num < x.den ∧ x.den ≤ 10 * x.num := by decide
example : let x : Frac := ⟨false, 123456, 1000⟩; 0 < x.den ∧ x.den ≤ x.num := by decide
example : fmtVal ⟨true, 2347928, 10 ^ 12⟩ true = ⟨true, 2347928, 6, -6⟩ := by decide +kernel
example : fmtVal ⟨true, 2347928, 10 ^ 12⟩ false = ⟨true, 2, 6, 0⟩ := by decide +kernel

end Pmn.Props.C19
