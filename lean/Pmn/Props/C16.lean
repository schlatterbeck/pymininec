/-
C16 — field tables contain exactly the requested sample points.

`K` is any commutative ring (ℝ, ℚ, …): the statements are about the exact values `start + i·step`; what IEEE
rounding does to them is outside the theorem and is tied by the bit-exact correspondence run (harness/c16.py).
-/
import Pmn.Model.Grid
import Pmn.Proofs.ListLemmas
import Mathlib.Tactic.Ring

namespace Pmn.Props.C16
open Pmn.Grid Pmn.ListLemmas

variable {K : Type} [CommRing K]

/-- the angle list has exactly `n` entries -/
theorem C16_angles_length (a d : K) (n : Nat) : (anglesDeg a d n).length = n := by
  simp [anglesDeg]

/-- entry `i` of the angle list is `start + i·step` -/
theorem C16_angles_get (a d : K) (n i : Nat) (h : i < n) :
    (anglesDeg a d n)[i]? = some (a + (i : K) * d) := by
  simp [anglesDeg, h]

/-- far-field table: exactly `N_θ · N_φ` rows -/
theorem C16_far_rows (a d : K) (n : Nat) (a' d' : K) (n' : Nat) :
    (farTable (anglesDeg a d n) (anglesDeg a' d' n')).length = n' * n := by
  rw [farTable, length_flatMap_const _ _ n fun _ _ => by rw [List.length_map, C16_angles_length], C16_angles_length]

/-- far-field table: row `j·N_θ + i` is (θ_i, φ_j) = (θ₀ + i·Δθ, φ₀ + j·Δφ), azimuth outer -/
theorem C16_far_row (a d : K) (n : Nat) (a' d' : K) (n' i j : Nat) (hi : i < n) (hj : j < n') :
    (farTable (anglesDeg a d n) (anglesDeg a' d' n'))[j * n + i]?
      = some (a + (i : K) * d, a' + (j : K) * d') := by
  rw [farTable, getElem?_flatMap_const _ _ n (fun _ _ => by rw [List.length_map, C16_angles_length]) j i hi,
    C16_angles_get _ _ _ _ hj, Option.bind_some, List.getElem?_map, C16_angles_get _ _ _ _ hi, Option.map_some]

/-- in exact arithmetic NumPy's element rule `s + k·((s + i) − s)` is the rule of the angle lists -/
theorem axis_eq (s i : K) (n : Nat) : axis s i n = anglesDeg s i n := by
  simp only [axis, anglesDeg, add_sub_cancel_left]

/-- one near-field axis has exactly `n` coordinates -/
theorem C16_axis_length (s i : K) (n : Nat) : (axis s i n).length = n := by
  rw [axis_eq, C16_angles_length]

/-- coordinate `k` of a near-field axis is `start + k·increment` -/
theorem C16_axis_get (s i : K) (n k : Nat) (h : k < n) :
    (axis s i n)[k]? = some (s + (k : K) * i) := by
  rw [axis_eq, C16_angles_get _ _ _ _ h]

-- the plane is the inner `flatMap` of `nearGrid`, verbatim
theorem nearPlane_length (s i : V3 K) (nx ny : Nat) (z : K) :
    ((axis s.y i.y ny).flatMap fun y => (axis s.x i.x nx).map fun x => (⟨x, y, z⟩ : V3 K)).length = ny * nx := by
  rw [length_flatMap_const _ _ nx fun _ _ => by rw [List.length_map, C16_axis_length], C16_axis_length]

/-- near-field grid: exactly `Nx·Ny·Nz` points -/
theorem C16_near_length (s i : V3 K) (nx ny nz : Nat) :
    (nearGrid s i nx ny nz).length = nx * ny * nz := by
  rw [nearGrid, length_flatMap_const _ _ (ny * nx) fun z _ => nearPlane_length s i nx ny z, C16_axis_length]
  ring

/-- near-field grid: point number `(c·Ny + b)·Nx + a` (x fastest, then y, then z) is
`(sx + a·ix, sy + b·iy, sz + c·iz)` -/
theorem C16_near_get (s i : V3 K) (nx ny nz a b c : Nat) (ha : a < nx) (hb : b < ny) (hc : c < nz) :
    (nearGrid s i nx ny nz)[(c * ny + b) * nx + a]?
      = some ⟨s.x + (a : K) * i.x, s.y + (b : K) * i.y, s.z + (c : K) * i.z⟩ := by
  have hidx : (c * ny + b) * nx + a = c * (ny * nx) + (b * nx + a) := by ring
  have hba : b * nx + a < ny * nx :=
    calc b * nx + a < (b + 1) * nx := by rw [Nat.succ_mul]; omega
      _ ≤ ny * nx := Nat.mul_le_mul_right _ hb
  rw [nearGrid, hidx, getElem?_flatMap_const _ _ (ny * nx) (fun z _ => nearPlane_length s i nx ny z) c _ hba,
    C16_axis_get _ _ _ _ hc, Option.bind_some,
    getElem?_flatMap_const _ _ nx (fun _ _ => by rw [List.length_map, C16_axis_length]) b a ha,
    C16_axis_get _ _ _ _ hb, Option.bind_some, List.getElem?_map, C16_axis_get _ _ _ _ ha, Option.map_some]

example : (nearGrid (⟨0, 10, 20⟩ : V3 Int) ⟨1, 2, 3⟩ 2 3 4).length = 24
    ∧ (nearGrid (⟨0, 10, 20⟩ : V3 Int) ⟨1, 2, 3⟩ 2 3 4)[(3 * 3 + 2) * 2 + 1]? = some ⟨1, 14, 29⟩ := by
  decide

/-- The defect of the former grid code (`np.arange (s, s + n*i, i)`), as a kernel-checked fact
about IEEE doubles: for start 0, increment 0.1, count 3 the axis gets 4 coordinates, because
`0 + 3*0.1 = 0.30000000000000004` and `ceil (0.30000000000000004 / 0.1) = 4`. -/
theorem C16_old_rule_defect : oldAxisLen 0.0 0.1 3 = 4 := by decide +kernel

end Pmn.Props.C16
