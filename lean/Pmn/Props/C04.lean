/-
C04 — the near field is the field of the solved currents.

On the model `Pmn.Model.Near` over ℝ, for any potential functional Ψ: E and H are linear in the vector of pulse currents and
proportional to `fe = sqrt (pwr / P)`; the index arithmetic that assembles H is the central-difference curl (over ±s0/2) of
the total vector potential, times `fe / (4π s0)`; every half of a pulse enters with its own direction, sign, length and
radius — describing the pulse from the other side negates its vector potential and its E-field term (so with the negated
current the fields are the same), for every orientation-independent Ψ, and a half described in the opposite sense leaves the
vector potential unchanged.  The former rule (second half taken with the direction of the first) violates `C04_flip_A`:
kernel-checked witness at a corner pulse.

Not theorems (evaluated by harness/c04.py on the implementation): the 1 % agreement with an independent evaluation of the
fields of currents and charges, the convergence to the far field, E/H = 376.7 Ω and transversality at large distance.
-/
import Pmn.Model.Near
import Pmn.Model.Const
import Pmn.Props.C06
import Mathlib.Tactic.NormNum

namespace Pmn.Props.C04
open Pmn.Fill Pmn.Near Pmn.Far Pmn.Props.C06

theorem cv3_ext (a b : CV3 ℝ) (hx : a.x = b.x) (hy : a.y = b.y) (hz : a.z = b.z) : a = b :=
  CxC.cv3_ext hx hy hz

def cv3neg (a : CV3 ℝ) : CV3 ℝ := ⟨-a.x, -a.y, -a.z⟩

/-- `a I + b J`, componentwise -/
def comb (a b : Cx ℝ) : List (Cx ℝ) → List (Cx ℝ) → List (Cx ℝ)
  | i :: is, j :: js => (a * i + b * j) :: comb a b is js
  | _, _ => []

theorem comb_smul (c a b : Cx ℝ) (X Y : CV3 ℝ) :
    CV3.smul c (CV3.add (CV3.smul a X) (CV3.smul b Y))
      = CV3.add (CV3.smul a (CV3.smul c X)) (CV3.smul b (CV3.smul c Y)) := by
  apply CxC.cv3_toC_ext <;> simp only [to_complex] <;> ring

theorem sumP_lin (kneg : Bool) (f : PulseD ℝ → CV3 ℝ) (a b : Cx ℝ) (ps : List (PulseD ℝ)) (I J : List (Cx ℝ))
    (h : I.length = J.length) :
    sumP kneg f ps (comb a b I J) = CV3.add (CV3.smul a (sumP kneg f ps I)) (CV3.smul b (sumP kneg f ps J)) := by
  induction ps generalizing I J with
  | nil => simp only [sumP]; exact CxC.cv3_comb_zero a b
  | cons p ps ih =>
    match I, J, h with
    | [], [], _ => simp only [sumP, comb]; exact CxC.cv3_comb_zero a b
    | i :: is, j :: js, h =>
      simp only [comb, sumP, ih is js (Nat.succ.inj h)]
      split
      · apply CxC.cv3_toC_ext <;> simp only [to_complex] <;> ring
      · rfl

theorem sumPasses_lin (g : Bool) (a b : Cx ℝ) (f fi fj : ℝ → Bool → CV3 ℝ)
    (h : ∀ k kn, f k kn = CV3.add (CV3.smul a (fi k kn)) (CV3.smul b (fj k kn))) :
    sumPasses g f = CV3.add (CV3.smul a (sumPasses g fi)) (CV3.smul b (sumPasses g fj)) := by
  unfold sumPasses passes
  cases g <;> simp only [Bool.false_eq_true, if_false, if_true, List.foldl_cons, List.foldl_nil, h] <;>
    apply CxC.cv3_toC_ext <;> simp only [to_complex] <;> ring

/-- **the E field is linear in the currents** -/
theorem C04_linear_E (Ψ : PsiFn ℝ) (w2 s0 m fe : ℝ) (g : Bool) (vec : V3 ℝ) (ps : List (PulseD ℝ))
    (a b : Cx ℝ) (I J : List (Cx ℝ)) (h : I.length = J.length) :
    Near.eField Ψ w2 s0 m fe g vec ps (comb a b I J)
      = CV3.add (CV3.smul a (Near.eField Ψ w2 s0 m fe g vec ps I)) (CV3.smul b (Near.eField Ψ w2 s0 m fe g vec ps J)) := by
  unfold Near.eField
  rw [sumPasses_lin g a b _ _ _ fun k kn => sumP_lin kn _ a b ps I J h, comb_smul]

theorem aTot_lin (Ψ : PsiFn ℝ) (g : Bool) (v : V3 ℝ) (ps : List (PulseD ℝ)) (a b : Cx ℝ) (I J : List (Cx ℝ))
    (h : I.length = J.length) :
    aTot Ψ g v ps (comb a b I J) = CV3.add (CV3.smul a (aTot Ψ g v ps I)) (CV3.smul b (aTot Ψ g v ps J)) :=
  sumPasses_lin g a b _ _ _ fun k kn => by rw [sumP_lin kn _ a b ps I J h, comb_smul]

/-- **the H field is linear in the currents** -/
theorem C04_linear_H (Ψ : PsiFn ℝ) (s0 fe fourPi : ℝ) (g : Bool) (vec : V3 ℝ) (ps : List (PulseD ℝ))
    (a b : Cx ℝ) (I J : List (Cx ℝ)) (h : I.length = J.length) :
    hField Ψ s0 fe fourPi g vec ps (comb a b I J)
      = CV3.add (CV3.smul a (hField Ψ s0 fe fourPi g vec ps I)) (CV3.smul b (hField Ψ s0 fe fourPi g vec ps J)) := by
  unfold hField kf
  simp only [aTot_lin Ψ g _ ps a b I J h]
  apply CxC.cv3_toC_ext <;> simp only [to_complex] <;> ring

/-- **E ∝ sqrt (pwr / P)**: the field for the factor `fe` is `fe` times the field for factor 1 -/
theorem C04_power_E (Ψ : PsiFn ℝ) (w2 s0 m fe : ℝ) (g : Bool) (vec : V3 ℝ) (ps : List (PulseD ℝ)) (I : List (Cx ℝ)) :
    Near.eField Ψ w2 s0 m fe g vec ps I = CV3.smul (cxOfReal fe) (Near.eField Ψ w2 s0 m 1 g vec ps I) := by
  unfold Near.eField
  apply CxC.cv3_toC_ext <;> simp only [to_complex] <;> ring

theorem C04_power_H (Ψ : PsiFn ℝ) (s0 fe fourPi : ℝ) (g : Bool) (vec : V3 ℝ) (ps : List (PulseD ℝ)) (I : List (Cx ℝ)) :
    hField Ψ s0 fe fourPi g vec ps I = CV3.smul (cxOfReal fe) (hField Ψ s0 1 fourPi g vec ps I) := by
  unfold hField
  apply CxC.cv3_toC_ext <;> simp only [to_complex] <;> ring

/-- central differences of a vector field over `±h` along the three axes, combined as a curl -/
def curlFD (A : V3 ℝ → CV3 ℝ) (vec : V3 ℝ) (h : ℝ) : CV3 ℝ :=
  let d := fun (i : Nat) => (A (vadd vec (axis i h)), A (vadd vec (axis i (-h))))
  ⟨((d 1).1.z - (d 1).2.z) - ((d 2).1.y - (d 2).2.y),
   ((d 2).1.x - (d 2).2.x) - ((d 0).1.z - (d 0).2.z),
   ((d 0).1.y - (d 0).2.y) - ((d 1).1.x - (d 1).2.x)⟩

/-- **H = fe / (4π s0) · curl_FD A_total** -/
theorem C04_curl (Ψ : PsiFn ℝ) (s0 fe fourPi : ℝ) (g : Bool) (vec : V3 ℝ) (ps : List (PulseD ℝ)) (I : List (Cx ℝ)) :
    hField Ψ s0 fe fourPi g vec ps I
      = CV3.smul (cxOfReal (fe / s0 / fourPi)) (curlFD (fun v => aTot Ψ g v ps I) vec (s0 / ((2 : Nat) : ℝ))) := by
  unfold hField kf curlFD
  simp only [Bool.false_eq_true, if_false, if_true]
  apply CxC.cv3_toC_ext <;> simp only [to_complex] <;> ring

/-- **the vector potential of a pulse described from the other side is the negative** -/
theorem C04_flip_A (Ψ : PsiFn ℝ) (hΨ : FlipSymAt Ψ false) (k : ℝ) (kneg : Bool) (v : V3 ℝ) (p : PulseD ℝ) (i' : Nat) :
    nfA Ψ k kneg v (flipPulse p i') = cv3neg (nfA Ψ k kneg v p) := by
  unfold nfA
  simp only [dvecs_flip, hΨ, Bool.not_true, Bool.not_false]
  simp only [flipPulse, negV, cv3neg]
  apply CxC.cv3_toC_ext <;> simp only [to_complex] <;> ring

theorem psi56_flip (Ψ : PsiFn ℝ) (hΨ : FlipSymAt Ψ false) (k : ℝ) (kneg : Bool) (v : V3 ℝ) (p : PulseD ℝ) (i' : Nat)
    (pos : Bool) : psi56 Ψ k kneg v (flipPulse p i') pos = psi56 Ψ k kneg v p (!pos) := by
  unfold psi56
  simp only [dvecs_flip, hΨ]

/-- **the E-field term of a pulse described from the other side is the negative** -/
theorem C04_flip_E (Ψ : PsiFn ℝ) (hΨ : FlipSymAt Ψ false) (w2 s0 k : ℝ) (kneg : Bool) (v : V3 ℝ) (p : PulseD ℝ) (i' : Nat) :
    ePulse Ψ w2 s0 k kneg v (flipPulse p i') = cv3neg (ePulse Ψ w2 s0 k kneg v p) := by
  unfold ePulse eComp
  simp only [C04_flip_A Ψ hΨ, psi56_flip Ψ hΨ, Bool.not_true, Bool.not_false]
  simp only [flipPulse, cv3neg]
  apply CxC.cv3_toC_ext <;> simp only [to_complex] <;> ring

theorem active_flip (kneg : Bool) (p : PulseD ℝ) (i' : Nat) : active kneg (flipPulse p i') = active kneg p := by
  unfold active
  show (!kneg || !(p.s1.gnd || p.s0.gnd)) = _
  rw [Bool.or_comm p.s1.gnd]

/-- a half described in the opposite sense (direction vector, direction sign and sign negated)
leaves the vector potential of the pulse unchanged -/
theorem C04_dir_sign_A (Ψ : PsiFn ℝ) (hΨ : DirFree Ψ) (k : ℝ) (kneg : Bool) (v : V3 ℝ) (p : PulseD ℝ) (b0 b1 : Bool) :
    nfA Ψ k kneg v { p with s0 := if b0 then negHalf p.s0 else p.s0, s1 := if b1 then negHalf p.s1 else p.s1 }
      = nfA Ψ k kneg v p := by
  unfold nfA
  simp only [dvecs_sameHalf p (sameHalf_sense b0 _) (sameHalf_sense b1 _),
    psi_sameHalf p (sameHalf_sense b0 _) (sameHalf_sense b1 _) hΨ]
  cases b0 <;> cases b1 <;> simp only [if_true, if_false, Bool.false_eq_true, negHalf, negV] <;>
    apply CxC.cv3_toC_ext <;> simp only [to_complex] <;> ring

/-- the former `nf_helper`: both halves with the direction of the first, the second half without its sign and with the
segment data selected by a positive displacement -/
noncomputable def nfAOld (Ψ : PsiFn ℝ) (k : ℝ) (kneg : Bool) (v1 : V3 ℝ) (p : PulseD ℝ) : CV3 ℝ :=
  let half : ℝ := 1 / 2
  let ab1 := dvecs p true half
  let u := Ψ (vsub v1 (kmul k ab1.1)) (vsub v1 (kmul k ab1.2)) kneg half true p false false
  let ab0 := dvecs p false half
  let v := Cx.scale p.s0.sign (Ψ (vsub v1 (kmul k ab0.1)) (vsub v1 (kmul k ab0.2)) kneg half true p false false)
  ⟨Cx.scale p.s0.dir.x v + Cx.scale p.s0.dir.x u,
   Cx.scale p.s0.dir.y v + Cx.scale p.s0.dir.y u,
   Cx.scale k (Cx.scale (p.s0.gsgn * p.s0.dir.z) v + Cx.scale (p.s1.gsgn * p.s0.dir.z) u)⟩

/-- a corner pulse: first half along x, second half along y -/
def cornerPulse : PulseD ℝ :=
  { idx := 0, pt := ⟨0, 0, 0⟩,
    s0 := ⟨1, ⟨1, 0, 0⟩, 1, 0, ⟨-1, 0, 0⟩, 1, 1, 1, false⟩,
    s1 := ⟨1, ⟨0, 1, 0⟩, 1, 0, ⟨0, 1, 0⟩, 1, 1, 1, false⟩,
    owner := 0, plain := false, geo0 := 0, nvg := false }

/-- **defect witness**: with the constant functional Ψ = 1 (orientation independent) the former rule
gives the corner pulse and the same pulse described from the other side vector potentials that are
not negatives of each other (x-components 2 and 0) — `C04_flip_A` fails for it -/
theorem C04_defect_witness :
    (nfAOld (fun _ _ _ _ _ _ _ _ => ⟨1, 0⟩) 1 false ⟨0, 0, 5⟩ cornerPulse).x.re = 2 ∧
    (nfAOld (fun _ _ _ _ _ _ _ _ => ⟨1, 0⟩) 1 false ⟨0, 0, 5⟩ (flipPulse cornerPulse 0)).x.re = 0 := by
  simp only [nfAOld, cornerPulse, flipPulse, negV, Cx.scale, Pmn.FarLemmas.cx_add_def]
  norm_num

/-- `nfA` gives the x-components 1 and −1 -/
example :
    (nfA (fun _ _ _ _ _ _ _ _ => ⟨1, 0⟩) 1 false ⟨0, 0, 5⟩ cornerPulse).x.re = 1 ∧
    (nfA (fun _ _ _ _ _ _ _ _ => ⟨1, 0⟩) 1 false ⟨0, 0, 5⟩ (flipPulse cornerPulse 0)).x.re = -1 := by
  simp only [nfA, cornerPulse, flipPulse, negV, Cx.scale, Pmn.FarLemmas.cx_add_def]
  norm_num

/-- virtual dipole length `s0 = λ / 1000` and `m = 4.77783352 λ`, regenerated from the source -/
theorem C04_constants : Pmn.Const.nfS0Factor = ⟨1, 1000⟩ ∧ Pmn.Const.mFactor = ⟨59722919, 12500000⟩ := by
  decide

end Pmn.Props.C04
