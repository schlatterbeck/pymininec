/-
C13, one-sided taper (`taper.taper1`, `Pmn.Geom.taper1Loop`): positive lengths, growth from the tapered end by a factor of
at most 2.1 per step.

Over ℝ the list of lengths of an accepted taper is computed (`taper1_lengths`: a doubling run, then equal lengths) and the
two clauses are read off it.  That the loop does not double to the very end follows from `minl ≥ l / (2^n − 1)`.
-/
import Pmn.Props.C13
import Pmn.Proofs.Line
import Mathlib.Tactic.Linarith
import Mathlib.Tactic.Positivity
import Mathlib.Tactic.NormNum

namespace Pmn.Props.C13b
open Pmn.Geom Pmn.Props.C13

@[simp] theorem add_x (a b : V3 ℝ) : (a + b).x = a.x + b.x := rfl
@[simp] theorem add_y (a b : V3 ℝ) : (a + b).y = a.y + b.y := rfl
@[simp] theorem add_z (a b : V3 ℝ) : (a + b).z = a.z + b.z := rfl
@[simp] theorem sub_x (a b : V3 ℝ) : (a - b).x = a.x - b.x := rfl
@[simp] theorem sub_y (a b : V3 ℝ) : (a - b).y = a.y - b.y := rfl
@[simp] theorem sub_z (a b : V3 ℝ) : (a - b).z = a.z - b.z := rfl
@[simp] theorem smulV_x (c : ℝ) (a : V3 ℝ) : (smulV c a).x = c * a.x := rfl
@[simp] theorem smulV_y (c : ℝ) (a : V3 ℝ) : (smulV c a).y = c * a.y := rfl
@[simp] theorem smulV_z (c : ℝ) (a : V3 ℝ) : (smulV c a).z = c * a.z := rfl
@[simp] theorem divV_x (c : ℝ) (a : V3 ℝ) : (divV a c).x = a.x / c := rfl
@[simp] theorem divV_y (c : ℝ) (a : V3 ℝ) : (divV a c).y = a.y / c := rfl
@[simp] theorem divV_z (c : ℝ) (a : V3 ℝ) : (divV a c).z = a.z / c := rfl

/-- length of a segment -/
noncomputable def len (s : V3 ℝ × V3 ℝ) : ℝ := V3.norm (s.2 - s.1)

theorem len_step {e p : V3 ℝ} {s d : ℝ} (he : V3.norm e = 1) (hd : 0 ≤ d) :
    len (p + smulV s e, p + smulV (s + d) e) = d := by
  rw [len, Line.sub_line, add_sub_cancel_left, Line.norm_smulV_of_nonneg he hd]

def doubling (m : ℝ) (k : Nat) : List ℝ := (List.range k).map fun j => 2 ^ j * m

theorem doubling_succ (m : ℝ) (k : Nat) : doubling m (k + 1) = doubling m k ++ [2 ^ k * m] := by
  simp [doubling, List.range_succ]

theorem doubling_pos {m : ℝ} (hm : 0 < m) {k : Nat} {x : ℝ} (hx : x ∈ doubling m k) : 0 < x := by
  obtain ⟨j, -, rfl⟩ := List.mem_map.mp hx
  positivity

theorem isChain_doubling_append {R : ℝ → ℝ → Prop} {m : ℝ} (hR : ∀ j : Nat, R (2 ^ j * m) (2 ^ (j + 1) * m))
    {r : List ℝ} : ∀ k : Nat, List.IsChain R (2 ^ k * m :: r) → List.IsChain R (doubling m (k + 1) ++ r)
  | 0, h => by simpa [doubling] using h
  | k + 1, h => by
    rw [doubling_succ, List.append_assoc]
    exact isChain_doubling_append hR k (List.IsChain.cons_cons (hR k) h)

theorem isChain_doubling_replicate {R : ℝ → ℝ → Prop} {m c : ℝ} (hR : ∀ j : Nat, R (2 ^ j * m) (2 ^ (j + 1) * m))
    (hc : R c c) (k d : Nat) (hk : ∀ j, k = j + 1 → R (2 ^ j * m) c) :
    List.IsChain R (doubling m k ++ List.replicate d c) := by
  have hrep := List.isChain_replicate_of_rel d hc
  cases k with
  | zero => exact hrep
  | succ j =>
    refine isChain_doubling_append hR j (hrep.cons fun y hy => ?_)
    rw [List.eq_of_mem_replicate (List.mem_of_mem_head? hy)]
    exact hk j rfl

/-- the lengths of a one-sided taper of `n` segments over a wire of length `L`: a doubling run, then `n − k` equal lengths
`c` that share what is left of the wire -/
def Taper1Shape (n : Nat) (L m eps : ℝ) (lens : List ℝ) : Prop :=
  ∃ (k : Nat) (c : ℝ), k < n ∧ ((n - k : Nat) : ℝ) * c = L - (2 ^ k - 1) * m ∧ 0 < c ∧ c < 2 ^ k * m + eps ∧
    lens = doubling m k ++ List.replicate (n - k) c

theorem Taper1Shape.pos {n : Nat} {L m eps : ℝ} {lens : List ℝ} (hm : 0 < m) (h : Taper1Shape n L m eps lens) :
    ∀ x ∈ lens, 0 < x := by
  obtain ⟨k, c, -, -, hc, -, rfl⟩ := h
  exact List.forall_mem_append.mpr ⟨fun _ => doubling_pos hm, fun _ hx => List.eq_of_mem_replicate hx ▸ hc⟩

/-- where the doubling ends: `c < 2·2^j·m + eps ≤ 2.1·2^j·m`, as `eps ≤ m / 10 ≤ 2^j·m / 10` -/
theorem switch_le {m eps c : ℝ} (hm : 0 < m) (heps : eps ≤ m / 10) (j : Nat) (hlt : c < 2 ^ (j + 1) * m + eps) :
    c ≤ 2.1 * (2 ^ j * m) := by
  have : m ≤ 2 ^ j * m := le_mul_of_one_le_left hm.le (one_le_pow₀ (by norm_num))
  rw [pow_succ] at hlt
  linarith only [this, hlt, heps]

/-- factor exactly 2 in the doubling run, `switch_le` where it ends, 1 afterwards -/
theorem Taper1Shape.isChain {n : Nat} {L m eps : ℝ} {lens : List ℝ} (hm : 0 < m) (heps : eps ≤ m / 10)
    (h : Taper1Shape n L m eps lens) : List.IsChain (fun x y => y ≤ 2.1 * x) lens := by
  obtain ⟨k, c, -, -, hc, hlt, rfl⟩ := h
  refine isChain_doubling_replicate (fun j => ?_) (by linarith only [hc]) k _ fun j hj => ?_
  · have : 0 < 2 ^ j * m := by positivity
    rw [pow_succ]; linarith only [this]
  · exact switch_le hm heps j (hj ▸ hlt)

/-! ### the main loop on the line `p1 + smulV s e` through the wire, `e` a unit vector -/

/-- steady phase: once the increment is fixed with `fuel · c` of the wire left, every further segment is `c` long -/
theorem taper1Loop_steady {e p1 lv minc : V3 ℝ} {L c eps minT mt : ℝ} {n : Nat} (he : V3.norm e = 1) (hc : 0 ≤ c) :
    ∀ (fuel i : Nat) (s : ℝ) (segs : List (V3 ℝ × V3 ℝ)), i + fuel = n → fuel * c = L - s →
      taper1Loop p1 (p1 + smulV L e) lv minc eps minT mt n fuel i true (p1 + smulV s e) (smulV c e) = .ok segs →
      segs.map len = List.replicate fuel c := by
  intro fuel
  induction fuel with
  | zero => intro i s segs _ _ hok; cases hok; rfl
  | succ f ih =>
    intro i s segs hi hs hok
    obtain ⟨inc1, st, q, r, rfl, rfl, hq, -, rfl, hr⟩ := taper1Loop_ok_step hi hok
    simp only [if_true, Bool.true_or] at hq hr
    rw [Nat.cast_succ] at hs
    rw [Line.step_or_end (L := L) (fun _ => by
      rw [show f = 0 by omega, Nat.cast_zero, zero_add, one_mul] at hs
      linarith only [hs])] at hq
    subst hq
    rw [List.map_cons, len_step he hc, ih _ _ r (by omega) (by linarith only [hs]) hr, List.replicate_succ]

/-- doubling phase, having reached index `i` at `(2^i − 1)·m` along the wire -/
theorem taper1Loop_lengths {e p1 : V3 ℝ} {L m eps minT mt : ℝ} {n : Nat} (he : V3.norm e = 1) (hm : 0 < m)
    (heps : 0 < eps) (hbig : L ≤ (2 ^ n - 1) * m) :
    ∀ (fuel i : Nat) (inc1Prev : V3 ℝ) (segs : List (V3 ℝ × V3 ℝ)), i + fuel = n → 0 < fuel → (2 ^ i - 1) * m < L →
      taper1Loop p1 (p1 + smulV L e) (smulV L e) (smulV m e) eps minT mt n fuel i false
        (p1 + smulV ((2 ^ i - 1) * m) e) inc1Prev = .ok segs →
      Taper1Shape n L m eps (doubling m i ++ segs.map len) := by
  intro fuel
  induction fuel with
  | zero => intro i _ _ _ h; omega
  | succ f ih =>
    intro i inc1Prev segs hi _ hs hok
    generalize hsdef : (2 ^ i - 1) * m = s at hs hok
    have hfi : n - i = f + 1 := by omega
    -- what is left of the wire, divided evenly
    obtain ⟨c, hc, hfc, hdiv⟩ := Line.divV_rest e (rest := L - s) (r := ((n - i : Nat) : ℝ)) (by linarith)
      (Nat.cast_pos.mpr (by omega))
    have hinc1 : smulV c e = divV (smulV L e - (p1 + smulV s e - p1)) ((n - i : Nat) : ℝ) := by
      rw [Line.add_sub_cancel_left, Line.smulV_sub_smulV, hdiv]
    have hnorm := Line.norm_smulV_of_nonneg he hc.le
    have hX := Line.norm_pow_smulV he hm.le i
    by_cases hsw : c < 2 ^ i * m + eps
    · rw [taper1Loop_switch hinc1 (by rw [hnorm, hX]; exact hsw)] at hok
      refine ⟨i, c, by omega, by rw [hsdef]; exact hfc, hc, hsw, ?_⟩
      rw [hfi] at hfc ⊢
      rw [taper1Loop_steady he hc.le (f + 1) i s segs hi hfc hok]
    · obtain ⟨inc1, st, q, r, rfl, rfl, hq, -, rfl, hr⟩ := taper1Loop_ok_step hi hok
      simp only [Bool.false_eq_true, if_false, ← hinc1, hnorm, hX, Bool.false_or, decide_eq_false hsw] at hq hr
      -- not switching means that more than one further doubled segment is left
      have hleft : 2 ^ i * m + eps ≤ L - s := by
        have : c ≤ ((n - i : Nat) : ℝ) * c := le_mul_of_one_le_left hc.le (Nat.one_le_cast.mpr (by omega))
        linarith only [this, hfc, hsw]
      have hnext : s + 2 ^ i * m = (2 ^ (i + 1) - 1) * m := by rw [← hsdef]; ring
      have hf : i ≠ n - 1 := by
        -- … so this is not the last segment: the first one is at least `l / (2^n − 1)`
        intro hlast
        rw [show n = i + 1 by omega, ← hnext] at hbig
        linarith only [hbig, hleft, heps]
      rw [if_neg hf, Line.smulV_smulV, Line.add_smulV_add_smulV, hnext] at hq
      subst hq
      rw [List.map_cons, ← hnext, len_step he (by positivity), List.append_cons, ← doubling_succ]
      exact ih (i + 1) _ r (by omega) (by omega) (by linarith only [hnext, hleft, heps]) hr

/-- what both loops need of `(minl, eps)`; `m0`: the first length aimed at, `N`: the pieces of length `minl` in a taper that
doubles all the way (`2^n − 1`, `taper2Pieces n`), which would fill the wire or more -/
theorem minl_facts {l N m0 minl eps : ℝ} (hl : 0 < l) (hN : 0 < N) (h0 : l / N ≤ m0) (hge : m0 ≤ minl)
    (heps : eps = m0 / ((10 : Nat) : ℝ)) : 0 < minl ∧ 0 < eps ∧ eps ≤ minl / 10 ∧ l ≤ N * minl := by
  have hm0 : 0 < m0 := lt_of_lt_of_le (div_pos hl hN) h0
  rw [heps, Nat.cast_ofNat]
  refine ⟨lt_of_lt_of_le hm0 hge, div_pos hm0 (by norm_num), div_le_div_of_nonneg_right hge (by norm_num), ?_⟩
  rw [mul_comm]
  exact ((div_le_iff₀ hN).mp h0).trans (mul_le_mul_of_nonneg_right hge hN.le)

/-- **the lengths of a one-sided taper** (tapered end first), with `(m, eps)` from `taper1Minl`.  Acceptance implies `hl`
only when `0 < max (2.5 r, min_t)` -/
theorem taper1_lengths {p1 p2 : V3 ℝ} {n : Nat} {r minT : ℝ} {maxT : Option ℝ} {c25 : ℝ} {isZero : ℝ → Bool}
    {segs : List (V3 ℝ × V3 ℝ)} (hl : 0 < V3.norm (p2 - p1))
    (h : taper1 p1 p2 n r minT maxT false c25 isZero = .ok segs) :
    ∃ (m eps : ℝ), taper1Minl (V3.norm (p2 - p1)) n (maxK (c25 * r) minT) maxT = .ok (m, eps) ∧ 0 < m ∧
      eps ≤ m / 10 ∧ Taper1Shape n (V3.norm (p2 - p1)) m eps (segs.map len) := by
  obtain ⟨m, eps, hn, hminl, hloop⟩ := taper1_ok h
  obtain ⟨heq, hge⟩ := taper1Minl_ok hminl
  obtain ⟨hm, heps0, heps, hbig⟩ := minl_facts hl (Nat.cast_pos.mpr (Nat.sub_pos_of_lt (Nat.one_lt_two_pow (by omega))))
    (le_maxK _ _) hge heq
  rw [Nat.cast_pred (Nat.two_pow_pos n), Nat.cast_pow, Nat.cast_ofNat] at hbig
  obtain ⟨e, he, hp2⟩ := Line.exists_unit p1 p2 hl
  generalize V3.norm (p2 - p1) = L at *
  subst hp2
  rw [Line.add_sub_cancel_left, Line.smulV_smulV, div_mul_cancel₀ m hl.ne'] at hloop
  exact ⟨m, eps, hminl, hm, heps, taper1Loop_lengths he hm heps0 hbig n 0 _ segs (by omega) (by omega)
    (by simpa using hl) (by simpa [Line.add_smulV_zero] using hloop)⟩

/-- consecutive segments grow by at most the factor 2.1 (`prev`: length of the segment before the list) -/
def GrowOK : Option ℝ → List (V3 ℝ × V3 ℝ) → Prop
  | _, [] => True
  | none, s :: r => GrowOK (some (len s)) r
  | some a, s :: r => len s ≤ 2.1 * a ∧ GrowOK (some (len s)) r

theorem growOK_some_iff (a : ℝ) (r : List (V3 ℝ × V3 ℝ)) :
    GrowOK (some a) r ↔ List.IsChain (fun x y => y ≤ 2.1 * x) (a :: r.map len) := by
  induction r generalizing a with
  | nil => simp [GrowOK]
  | cons b r ih => simp only [GrowOK, List.map_cons, List.isChain_cons_cons, ih]

theorem growOK_none_iff (segs : List (V3 ℝ × V3 ℝ)) :
    GrowOK none segs ↔ List.IsChain (fun x y => y ≤ 2.1 * x) (segs.map len) := by
  cases segs with
  | nil => simp [GrowOK]
  | cons a r => exact growOK_some_iff (len a) r

/-- **taper growth** (tapered end first): from one segment of an accepted one-sided taper to the next the length grows by
a factor of at most 2.1 — exactly 2 while the loop doubles, less than `2 + eps / (previous)` where it switches to equal
segments, 1 afterwards -/
theorem C13_taper1_growth (p1 p2 : V3 ℝ) (n : Nat) (r minT : ℝ) (maxT : Option ℝ) (c25 : ℝ)
    (isZero : ℝ → Bool) (segs : List (V3 ℝ × V3 ℝ)) (hl : 0 < V3.norm (p2 - p1))
    (h : taper1 p1 p2 n r minT maxT false c25 isZero = .ok segs) : GrowOK none segs := by
  obtain ⟨m, eps, -, hm, heps, hshape⟩ := taper1_lengths hl h
  exact (growOK_none_iff segs).mpr (hshape.isChain hm heps)

/-- the same as a chain condition on neighbouring segments -/
theorem C13_taper1_growth_chain (p1 p2 : V3 ℝ) (n : Nat) (r minT : ℝ) (maxT : Option ℝ) (c25 : ℝ)
    (isZero : ℝ → Bool) (segs : List (V3 ℝ × V3 ℝ)) (hl : 0 < V3.norm (p2 - p1))
    (h : taper1 p1 p2 n r minT maxT false c25 isZero = .ok segs) :
    List.IsChain (fun x y => len y ≤ 2.1 * len x) segs :=
  (List.isChain_map len).mp ((growOK_none_iff segs).mp (C13_taper1_growth p1 p2 n r minT maxT c25 isZero segs hl h))

/-- **positive lengths** (tapered end first): every segment of an accepted one-sided taper has positive length -/
theorem C13_taper1_positive (p1 p2 : V3 ℝ) (n : Nat) (r minT : ℝ) (maxT : Option ℝ) (c25 : ℝ)
    (isZero : ℝ → Bool) (segs : List (V3 ℝ × V3 ℝ)) (hl : 0 < V3.norm (p2 - p1))
    (h : taper1 p1 p2 n r minT maxT false c25 isZero = .ok segs) : ∀ s ∈ segs, 0 < len s := by
  obtain ⟨m, eps, -, hm, -, hshape⟩ := taper1_lengths hl h
  exact fun s hs => hshape.pos hm _ (List.mem_map_of_mem hs)

/-- the same for a taper of the *second* end (`end = 1`): the segments are those of the taper run from `p2` to `p1`,
reversed and turned round — positive lengths, and read from the tapered end (the last segment) backwards they grow by at
most 2.1 per step -/
theorem C13_taper1_end2 (p1 p2 : V3 ℝ) (n : Nat) (r minT : ℝ) (maxT : Option ℝ) (c25 : ℝ)
    (isZero : ℝ → Bool) (segs : List (V3 ℝ × V3 ℝ)) (hl : 0 < V3.norm (p1 - p2))
    (h : taper1 p1 p2 n r minT maxT true c25 isZero = .ok segs) :
    (∀ s ∈ segs, 0 < len s) ∧
    List.IsChain (fun x y => len y ≤ 2.1 * len x) (segs.reverse.map fun s => (s.2, s.1)) := by
  obtain ⟨segs0, hf, rfl⟩ := taper1_end2_ok h
  constructor
  · refine List.forall_mem_map.mpr fun t ht => ?_
    have := C13_taper1_positive p2 p1 n r minT maxT c25 isZero segs0 hl hf t (List.mem_reverse.mp ht)
    rwa [len, Vec.norm_sub_comm] at this
  · have : ((segs0.reverse.map fun s => (s.2, s.1)).reverse.map fun s => (s.2, s.1)) = segs0 := by
      simp [List.map_reverse, Function.comp_def]
    rw [this]
    exact C13_taper1_growth_chain p2 p1 n r minT maxT c25 isZero segs0 hl hf

end Pmn.Props.C13b
