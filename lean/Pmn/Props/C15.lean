/-
C15 — the option file written for a model reproduces that model when read back.

Round trips of the option sub-languages of `Pmn.Model.Cmd`, for lists of any length; each repaired
defect of the writer is refuted for the former rule by a kernel-checked witness.
-/
import Pmn.Model.Cmd

namespace Pmn.Props.C15
open Pmn.Cmd

/-- source lists `main` can produce: the single default source, or only explicit ones -/
def WFSources (dflt : Nat) (ss : List Src) : Prop :=
  (∃ v, ss = [⟨.abs dflt, v, true⟩]) ∨ (ss ≠ [] ∧ ∀ s ∈ ss, s.isDefault = false)

@[simp] theorem pulse?_pulse (a : Addr) : SOpt.pulse? (.pulse a) = some a := rfl
@[simp] theorem pulse?_volt (v : Nat) : SOpt.pulse? (.volt v) = none := rfl
@[simp] theorem volt?_pulse (a : Addr) : SOpt.volt? (.pulse a) = none := rfl
@[simp] theorem volt?_volt (v : Nat) : SOpt.volt? (.volt v) = some v := rfl

theorem filterMap_flatMap_eq_map {α β γ : Type} (f : β → Option γ) (g : α → List β) (p : α → γ) (l : List α)
    (h : ∀ a ∈ l, (g a).filterMap f = [p a]) : (l.flatMap g).filterMap f = l.map p := by
  induction l with
  | nil => rfl
  | cons a r ih =>
    simp only [List.mem_cons, forall_eq_or_imp] at h
    simp [h.1, ih h.2]

theorem pulses_writeSrc (force : Bool) (s : Src) :
    (writeSrc force s).filterMap SOpt.pulse? = if s.isDefault then [] else [s.addr] := by
  simp [writeSrc, apply_ite (List.filterMap SOpt.pulse?)]

theorem volts_writeSrc (force : Bool) (s : Src) :
    (writeSrc force s).filterMap SOpt.volt? = if force ∨ s.volt ≠ 0 then [s.volt] else [] := by
  simp [writeSrc, apply_ite (List.filterMap SOpt.volt?)]

/-- the left side is the `vs` of `readSources` (default `1 V` put in): several sources are written with their
voltages, a single one gets the default back -/
theorem volts_writeSources (ss : List Src) (hne : ss ≠ []) :
    (if ((writeSources ss).filterMap SOpt.volt?).isEmpty then [0] else (writeSources ss).filterMap SOpt.volt?)
      = ss.map (·.volt) := by
  match ss, hne with
  | [s], _ => by_cases hv : s.volt = 0 <;> simp [writeSources, volts_writeSrc, hv]
  | s :: t :: r, _ =>
    rw [writeSources, filterMap_flatMap_eq_map _ _ (·.volt) _ fun a _ => by simp [volts_writeSrc]]
    rfl

/-- **sources round trip**: every source comes back on its pulse with its voltage -/
theorem C15_sources (dflt : Nat) (ss : List Src) (h : WFSources dflt ss) :
    readSources dflt (writeSources ss) = .ok ss := by
  rcases h with ⟨v, rfl⟩ | ⟨hne, hall⟩
  · have hv := volts_writeSources [⟨.abs dflt, v, true⟩] (by simp)
    simp only [readSources, hv]
    simp [writeSources, pulses_writeSrc]
  · have hv := volts_writeSources ss hne
    have hp : (writeSources ss).filterMap SOpt.pulse? = ss.map (·.addr) :=
      filterMap_flatMap_eq_map _ _ _ _ fun s hs => by simp [pulses_writeSrc, hall s hs]
    simp only [readSources, hv, hp]
    have hz : ss.map (fun s => (⟨s.addr, s.volt, false⟩ : Src)) = ss :=
      (List.map_congr_left fun s hs => by rw [← hall s hs]; rfl).trans (List.map_id _)
    simp [List.isEmpty_eq_false_iff.mpr hne, hz]

/-- the former writer (no voltage for a 1 V source): two sources, 1 V and another voltage, are
rejected when read back -/
theorem C15_sources_defect_witness :
    readSources 5 (writeSourcesOld [⟨.abs 3, 0, false⟩, ⟨.abs 5, 7, false⟩])
      = .error "number-of-excitation-pulses-must-match-voltages" := by rfl

/-- the written load value parses back to the same real and imaginary part, whatever their signs -/
theorem C15_complex (re im : SNum) (imZero : Bool) :
    parseComplex (writeComplex re im imZero) = some (re, if imZero then none else some im) := by
  obtain ⟨rn, ra⟩ := re
  cases rn <;> cases imZero <;> simp [writeComplex, renderNum, parseComplex]

/-- the former writer: a negative imaginary part gives a text `complex ()` rejects -/
theorem C15_complex_defect_witness (re : SNum) (b : Nat) :
    parseComplex (writeComplexOld re ⟨true, b⟩ false) = none := by
  obtain ⟨rn, ra⟩ := re
  cases rn <;> simp [writeComplexOld, renderNum, parseComplex]

/-- the wire named in the written `--taper-wire` option is the wire that was tapered -/
theorem C15_taper (tags : List Nat) (h : tags.Nodup) (k : Nat) (hk : k < tags.length) :
    (writeTaper true tags k).bind (readTaper tags) = some k := by
  rw [writeTaper, if_pos rfl, List.getElem?_eq_getElem hk, Option.bind_some, readTaper, List.idxOf?_eq_some_iff]
  -- the tags being distinct, no earlier wire has the tag of wire `k`
  exact ⟨hk, rfl, fun j hj => List.pairwise_iff_getElem.mp h j k (by omega) hk hj⟩

/-- the former writer (position instead of tag): wires tagged 7 and 3 (tag order 3, 7), taper on the
wire with tag 7 → `--taper-wire=2,…`, which names no wire; with tags 2 and 3 it names the other wire -/
theorem C15_taper_defect_witness :
    (writeTaper false [3, 7] 1).bind (readTaper [3, 7]) = none ∧
    (writeTaper false [2, 3] 0).bind (readTaper [2, 3]) = none ∧
    (writeTaper false [2, 3] 1).bind (readTaper [2, 3]) = some 0 := by decide

def defOf (l : Lump) : LClass × Nat := (l.cls, l.params)

@[simp] theorem load?_load (c : LClass) (p : Nat) : LOpt.load? (.load c p) = some (c, p) := rfl
@[simp] theorem load?_attach (i : Nat) (a : Att) : LOpt.load? (.attach i a) = none := rfl
@[simp] theorem attachOf_load (j : Nat) (c : LClass) (p : Nat) : LOpt.attachOf j (.load c p) = none := rfl
@[simp] theorem attachOf_attach (j i : Nat) (a : Att) :
    LOpt.attachOf j (.attach i a) = if i = j then some a else none := rfl

theorem attachOf_block (j i : Nat) (l : Lump) :
    (LOpt.load l.cls l.params :: l.att.map (LOpt.attach i)).filterMap (LOpt.attachOf j)
      = if i = j then l.att else [] := by
  by_cases h : i = j <;> simp [List.filterMap_cons, Function.comp_def, h]

theorem defs_of_write (i : Nat) (ls : List Lump) :
    (writeLoadsFrom i ls).filterMap LOpt.load? = ls.map defOf := by
  induction ls generalizing i with
  | nil => rfl
  | cons l r ih => simp [writeLoadsFrom, ih, defOf]

theorem idx_of_write (i : Nat) (ls : List Lump) (j : Nat) (a : Att) (h : LOpt.attach j a ∈ writeLoadsFrom i ls) :
    i < j ∧ j ≤ i + ls.length := by
  induction ls generalizing i with
  | nil => simp [writeLoadsFrom] at h
  | cons l r ih =>
    simp only [writeLoadsFrom, List.mem_append, List.mem_cons, List.mem_map, List.length_cons] at h ⊢
    rcases h with (h | ⟨_, _, h⟩) | h
    · cases h
    · cases h; omega
    · have := ih (i + 1) h; omega

theorem att_of_write_le (i j : Nat) (ls : List Lump) (h : j ≤ i) :
    (writeLoadsFrom i ls).filterMap (LOpt.attachOf j) = [] := by
  rw [List.filterMap_eq_nil_iff]
  rintro (_ | ⟨k, a⟩) ho
  · rfl
  · have := idx_of_write i ls k a ho
    simp only [attachOf_attach, ite_eq_right_iff]
    omega

/-- non-decreasing class rank: the order in which `main` numbers the loads, which is also that of `m.loads` -/
def ClassSorted (ds : List (LClass × Nat)) : Prop := ds.Pairwise (fun a b => a.1.rank ≤ b.1.rank)

theorem groupByClass_cons (c : LClass) (p : Nat) (r : List (LClass × Nat)) (h : ∀ b ∈ r, c.rank ≤ b.1.rank) :
    groupByClass ((c, p) :: r) = (c, p) :: groupByClass r := by
  have hnil : ∀ c' : LClass, c'.rank < c.rank → r.filter (·.1 = c') = [] := fun c' hc =>
    List.filter_eq_nil_iff.mpr fun b hb => by
      have := h b hb
      simp only [decide_eq_true_eq]
      rintro rfl
      omega
  cases c
  · simp [groupByClass]
  · simp [groupByClass, hnil .imp (by decide)]
  · simp [groupByClass, hnil .imp (by decide), hnil .rlc (by decide)]
  · simp [groupByClass, hnil .imp (by decide), hnil .rlc (by decide), hnil .trap (by decide)]

theorem groupByClass_sorted (ds : List (LClass × Nat)) (h : ClassSorted ds) : groupByClass ds = ds := by
  induction ds with
  | nil => rfl
  | cons d r ih =>
    have hp := List.pairwise_cons.mp h
    rw [groupByClass_cons d.1 d.2 r hp.1, ih hp.2]

/-- `attachFrom` filters the whole option list at every step, so for the induction the options already consumed
stay in front as `pre` -/
theorem attachFrom_write (pre : List LOpt) (i : Nat) (t : List Lump)
    (hpre : ∀ j, i < j → pre.filterMap (LOpt.attachOf j) = []) :
    attachFrom (pre ++ writeLoadsFrom i t) i (t.map defOf) = t := by
  induction t generalizing pre i with
  | nil => rfl
  | cons l r ih =>
    have hr := ih (pre ++ LOpt.load l.cls l.params :: l.att.map (LOpt.attach (i + 1))) (i + 1) fun j hj => by
      rw [List.filterMap_append, hpre j (by omega), attachOf_block, if_neg (by omega)]; rfl
    rw [List.append_assoc] at hr
    rw [writeLoadsFrom, List.map_cons, attachFrom, hr, List.filterMap_append, List.filterMap_append,
      hpre _ (by omega), attachOf_block, if_pos rfl, att_of_write_le _ _ _ (Nat.le_refl _)]
    simp [defOf]

/-- **loads round trip**: with the loads in definition (class) order and every load attached at
least once, each written `--attach-load` number refers to the load it was written for, and every
load comes back with exactly its attachments, in order -/
theorem C15_loads (ls : List Lump) (hs : ClassSorted (ls.map defOf)) (hatt : ∀ l ∈ ls, l.att ≠ []) :
    readLoads (writeLoads ls) = .ok ls := by
  have hdefs : groupByClass ((writeLoads ls).filterMap LOpt.load?) = ls.map defOf := by
    rw [writeLoads, defs_of_write, groupByClass_sorted _ hs]
  have hbad : (writeLoads ls).any (LOpt.badIdx ls.length) = false := by
    rw [List.any_eq_false]
    rintro (_ | ⟨j, a⟩) ho
    · simp [LOpt.badIdx]
    · have := idx_of_write 0 ls j a ho
      simp only [LOpt.badIdx, decide_eq_true_eq]
      omega
  have hl : attachFrom (writeLoads ls) 0 (ls.map defOf) = ls := attachFrom_write [] 0 ls fun _ _ => rfl
  have hne : ls.any (·.att.isEmpty) = false := by
    simpa [List.any_eq_false] using hatt
  simp [readLoads, hdefs, hbad, hl, hne]

/-- what `main` reads is always class-sorted, so `C15_loads` applies to every model that came from
a command line -/
theorem C15_read_sorted (ds : List (LClass × Nat)) : ClassSorted (groupByClass ds) := by
  have hg : groupByClass ds = [LClass.imp, .rlc, .trap, .laplace].flatMap fun c => ds.filter (·.1 = c) := by
    simp [groupByClass]
  have hrank : ∀ c, ∀ a ∈ ds.filter (·.1 = c), a.1.rank = c.rank := fun c a ha => by
    rw [of_decide_eq_true (List.mem_filter.mp ha).2]
  -- the classes are taken in the order of their ranks, and each block holds one class
  rw [hg, ClassSorted, List.pairwise_flatMap]
  constructor
  · intro c _
    exact List.pairwise_of_forall_mem_list fun a ha b hb => by rw [hrank c a ha, hrank c b hb]; exact Nat.le_refl _
  · have : [LClass.imp, .rlc, .trap, .laplace].Pairwise fun c₁ c₂ => c₁.rank ≤ c₂.rank := by decide
    exact this.imp fun hc a ha b hb => by rw [hrank _ a ha, hrank _ b hb]; exact hc

/-- the former numbering (order of first attachment): `--load` defined first but attached last is
written second, and comes back with the attachment of the other load -/
theorem C15_loads_defect_witness :
    (readLoads (writeLoads [⟨.rlc, 11, [.pulse 1]⟩, ⟨.imp, 22, [.pulse 2]⟩])).toOption
      = some [⟨.imp, 22, [.pulse 1]⟩, ⟨.rlc, 11, [.pulse 2]⟩] := by decide

end Pmn.Props.C15
