/-
Insertion into a list sorted by a key, behind the elements with the same key, and the sort obtained by folding it
(Python's `sorted (…, key = …)`).  The model has this shape three times; each is tied to `ins` / `insAll` where it is used:
`Geom.insertT` / `orderTransforms` (`Props.C13.insertT_eq`, `orderTransforms_eq`), `Topo.insertConn` / `sortConn`
(`Props.C09.sortConn_eq`), `Topo.insertByTag` / `sortByTag` (`Props.C17.sortByTag_eq`).
-/
import Mathlib.Order.Basic

namespace Pmn.InsertSort
variable {α κ : Type} [LinearOrder κ] (key : α → κ)

/-- `x` goes in front of the first element with a larger key -/
def ins (x : α) : List α → List α
  | [] => [x]
  | y :: r => if key x < key y then x :: y :: r else y :: ins x r

theorem ins_cons_of_lt {x y : α} (h : key x < key y) (r : List α) : ins key x (y :: r) = x :: y :: r :=
  if_pos h

theorem ins_cons_of_not_lt {x y : α} (h : ¬ key x < key y) (r : List α) :
    ins key x (y :: r) = y :: ins key x r :=
  if_neg h

theorem ins_of_lt {x : α} {l : List α} (h : ∀ y ∈ l, key x < key y) : ins key x l = x :: l := by
  cases l with
  | nil => rfl
  | cons a r => exact ins_cons_of_lt key (h a (List.mem_cons_self ..)) r

abbrev Sorted (l : List α) : Prop := l.Pairwise fun a b => key a ≤ key b

/-- insert the elements of `l`, first to last, into `acc` -/
def insAll (l acc : List α) : List α := l.foldl (fun acc x => ins key x acc) acc

theorem insAll_nil (acc : List α) : insAll key [] acc = acc := rfl

theorem insAll_cons (x : α) (r acc : List α) : insAll key (x :: r) acc = insAll key r (ins key x acc) := rfl

theorem insAll_append (l m acc : List α) : insAll key (l ++ m) acc = insAll key m (insAll key l acc) :=
  List.foldl_append

theorem ins_perm (x : α) (l : List α) : (ins key x l).Perm (x :: l) := by
  induction l with
  | nil => exact .refl _
  | cons y r ih =>
    unfold ins
    split
    · exact .refl _
    · exact (ih.cons y).trans (.swap x y r)

theorem mem_ins {x y : α} {l : List α} : y ∈ ins key x l ↔ y = x ∨ y ∈ l := by
  rw [(ins_perm key x l).mem_iff, List.mem_cons]

theorem insAll_perm (l acc : List α) : (insAll key l acc).Perm (l ++ acc) := by
  induction l generalizing acc with
  | nil => exact .refl _
  | cons x r ih => exact (ih _).trans (((ins_perm key x acc).append_left r).trans List.perm_middle)

theorem lt_of_lt_head {x u : α} {r : List α} (h : key x < key u) (hs : Sorted key (u :: r)) :
    ∀ y ∈ u :: r, key x < key y :=
  List.forall_mem_cons.mpr ⟨h, fun _ hy => h.trans_le (List.rel_of_pairwise_cons hs hy)⟩

theorem ins_sorted (x : α) {l : List α} (h : Sorted key l) : Sorted key (ins key x l) := by
  induction l with
  | nil => exact List.pairwise_singleton _ _
  | cons y r ih =>
    by_cases hlt : key x < key y
    · rw [ins_cons_of_lt key hlt]
      exact List.pairwise_cons.mpr ⟨fun z hz => (lt_of_lt_head key hlt h z hz).le, h⟩
    · rw [ins_cons_of_not_lt key hlt]
      refine List.pairwise_cons.mpr ⟨fun z hz => ?_, ih h.of_cons⟩
      rcases (mem_ins key).mp hz with rfl | hz
      exacts [not_lt.mp hlt, List.rel_of_pairwise_cons h hz]

theorem insAll_sorted (l : List α) {acc : List α} (h : Sorted key acc) : Sorted key (insAll key l acc) := by
  induction l generalizing acc with
  | nil => exact h
  | cons x r ih => exact ih (ins_sorted key x h)

theorem ins_comm {x u : α} (h : key x < key u) (l : List α) :
    ins key u (ins key x l) = ins key x (ins key u l) := by
  induction l with
  | nil => simp [ins, h, h.not_gt]
  | cons a r ih =>
    by_cases hua : key u < key a
    · simp [ins, hua, h.trans hua, h, h.not_gt]
    · by_cases hxa : key x < key a
      · simp [ins, hxa, hua, h.not_gt]
      · simp [ins, hxa, hua, ih]

theorem insAll_ins_of_lt {x : α} {s : List α} (hs : ∀ y ∈ s, key x < key y) (acc : List α) :
    insAll key s (ins key x acc) = ins key x (insAll key s acc) := by
  induction s generalizing acc with
  | nil => rfl
  | cons u r ih =>
    rw [insAll_cons, insAll_cons, ins_comm key (hs u (List.mem_cons_self ..))]
    exact ih (fun y hy => hs y (List.mem_cons_of_mem _ hy)) _

/-- inserting the elements of a sorted list with `x` inserted is inserting `x` last -/
theorem insAll_ins {s : List α} (hs : Sorted key s) (x : α) (acc : List α) :
    insAll key (ins key x s) acc = ins key x (insAll key s acc) := by
  induction s generalizing acc with
  | nil => rfl
  | cons u r ih =>
    by_cases h : key x < key u
    · rw [ins_cons_of_lt key h]
      exact insAll_ins_of_lt key (lt_of_lt_head key h hs) acc
    · rw [ins_cons_of_not_lt key h]
      exact ih hs.of_cons _

/-- sorting first changes nothing: the elements of the sorted list, inserted again, give what the original list gives -/
theorem insAll_insAll {s : List α} (hs : Sorted key s) (l acc : List α) :
    insAll key (insAll key l s) acc = insAll key l (insAll key s acc) := by
  induction l generalizing s with
  | nil => rfl
  | cons x r ih => exact (ih (ins_sorted key x hs)).trans (congrArg _ (insAll_ins key hs x acc))

theorem ins_filter (p : α → Bool) (x : α) {l : List α} (hl : Sorted key l) :
    (ins key x l).filter p = if p x then ins key x (l.filter p) else l.filter p := by
  induction l with
  | nil => cases h : p x <;> simp [ins, h]
  | cons u r ih =>
    by_cases h : key x < key u
    · -- `x` comes before all of `u :: r`, hence before what `p` leaves of it
      rw [ins_of_lt key fun y hy => lt_of_lt_head key h hl y (List.mem_filter.mp hy).1, ins_cons_of_lt key h,
        List.filter_cons]
    · rw [ins_cons_of_not_lt key h, List.filter_cons, ih hl.of_cons]
      cases hp : p x <;> cases hq : p u <;> simp [hq, ins, h]

theorem insAll_filter (p : α → Bool) (l : List α) {acc : List α} (ha : Sorted key acc) :
    (insAll key l acc).filter p = insAll key (l.filter p) (acc.filter p) := by
  induction l generalizing acc with
  | nil => rfl
  | cons x r ih =>
    rw [insAll_cons, ih (ins_sorted key x ha), ins_filter key p x ha]
    cases hp : p x <;> simp [hp, insAll_cons]

end Pmn.InsertSort
