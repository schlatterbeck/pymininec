/- Points `p + smulV t e` on a line: every vector the taper loops build is one, and these rules reduce it to its parameter. -/
import Pmn.Proofs.Vec
import Mathlib.Tactic.Positivity

namespace Pmn.Line
open Pmn.Geom Pmn.Vec

variable (p v e : V3 ℝ) (a b c : ℝ)

theorem add_sub_cancel_left : p + v - p = v := by
  apply ext <;> simp only [add_x, add_y, add_z, sub_x, sub_y, sub_z, _root_.add_sub_cancel_left]

theorem add_smulV_zero : p + smulV 0 e = p := by apply ext <;> simp

theorem smulV_smulV : smulV a (smulV b e) = smulV (a * b) e := by apply ext <;> simp [mul_assoc]

theorem divV_smulV : divV (smulV a e) c = smulV (a / c) e := by
  apply ext <;> simp only [divV_x, divV_y, divV_z, smulV_x, smulV_y, smulV_z, mul_div_right_comm]

theorem smulV_sub_smulV : smulV a e - smulV b e = smulV (a - b) e := by apply ext <;> simp [sub_mul]

theorem add_smulV_add_smulV : p + smulV a e + smulV b e = p + smulV (a + b) e := by
  apply ext <;> simp [add_mul, add_assoc]

theorem sub_line : p + smulV a e - (p + smulV b e) = smulV (a - b) e := by
  apply ext <;> simp only [add_x, add_y, add_z, sub_x, sub_y, sub_z, smulV_x, smulV_y, smulV_z] <;> ring

variable {p e a b}

theorem norm_smulV_of_nonneg (he : V3.norm e = 1) (ha : 0 ≤ a) : V3.norm (smulV a e) = a := by
  rw [norm_smulV, he, mul_one, abs_of_nonneg ha]

theorem norm_pow_smulV (he : V3.norm e = 1) (ha : 0 ≤ a) (i : Nat) :
    V3.norm (smulV (2 ^ i) (smulV a e)) = 2 ^ i * a := by
  rw [smulV_smulV, norm_smulV_of_nonneg he (by positivity)]

/-- `c = rest / r`: the even share of what is left of the wire -/
theorem divV_rest (e : V3 ℝ) {rest r : ℝ} (hrest : 0 < rest) (hr : 0 < r) :
    ∃ c, 0 < c ∧ r * c = rest ∧ divV (smulV rest e) r = smulV c e :=
  ⟨rest / r, div_pos hrest hr, mul_div_cancel₀ _ hr.ne', divV_smulV e rest r⟩

/-- the next point of a loop that steps by `b` but ends exactly at `p + smulV L e` when `c` holds -/
theorem step_or_end {c : Prop} [Decidable c] {L : ℝ} (h : c → L = a + b) :
    (if c then p + smulV L e else p + smulV a e + smulV b e) = p + smulV (a + b) e := by
  split
  · rw [h ‹_›]
  · exact add_smulV_add_smulV p e a b

theorem exists_unit (p q : V3 ℝ) (h : 0 < V3.norm (q - p)) :
    ∃ e, V3.norm e = 1 ∧ q = p + smulV (V3.norm (q - p)) e := by
  refine ⟨smulV (1 / V3.norm (q - p)) (q - p), ?_, ?_⟩
  · rw [norm_smulV, abs_of_pos (one_div_pos.mpr h), one_div_mul_cancel h.ne']
  · rw [smulV_smulV, mul_one_div_cancel h.ne']; apply ext <;> simp

end Pmn.Line
