/-
`Cx ℝ` is `ℂ`: the map `toC` is injective and commutes with every operation of the model's complex
arithmetic.  An identity between `Cx ℝ` expressions is proved, once the model functions in it are unfolded, by

    apply toC_inj            -- `a = b` from `toC a = toC b`
    simp only [to_complex]   -- pushes `toC` down to the atoms; real factors become casts `(r : ℂ)`
    ring                     -- in ℂ (`field_simp` where a real factor is cancelled: `Complex.ofReal_ne_zero`)

and one between `CV3 ℝ` expressions by `apply cv3_toC_ext <;> simp only [to_complex] <;> ring`, a goal per
component.  Squared moduli go over by `normSq_toC`.  The simp set `to_complex` (declared in `CxAttr.lean`) is
the rules of this file: an operation on `Cx ℝ` or `CV3 ℝ` that is missing gets its rule here.  Proof side only.
-/
import Pmn.Model.Far
import Pmn.Proofs.Inst
import Pmn.Proofs.CxAttr
import Mathlib.Data.Complex.Basic
import Mathlib.Tactic.Ring

namespace Pmn.CxC
open Pmn.Far

def toC (z : Cx ℝ) : ℂ := ⟨z.re, z.im⟩

theorem toC_inj {a b : Cx ℝ} (h : toC a = toC b) : a = b := by
  cases a; cases b; simpa [toC, Complex.ext_iff] using h

@[to_complex] theorem toC_add (a b : Cx ℝ) : toC (a + b) = toC a + toC b := rfl
@[to_complex] theorem toC_sub (a b : Cx ℝ) : toC (a - b) = toC a - toC b := rfl
@[to_complex] theorem toC_neg (a : Cx ℝ) : toC (-a) = -toC a := rfl
@[to_complex] theorem toC_mul (a b : Cx ℝ) : toC (a * b) = toC a * toC b := rfl
@[to_complex] theorem toC_div (a b : Cx ℝ) : toC (a / b) = toC a / toC b :=
  Complex.ext (by rw [Complex.div_re, ← add_div]; rfl) (by rw [Complex.div_im, ← sub_div]; rfl)
@[to_complex] theorem toC_scale (r : ℝ) (a : Cx ℝ) : toC (Cx.scale r a) = (r : ℂ) * toC a := by
  apply Complex.ext <;> simp [toC, Cx.scale]
@[to_complex] theorem toC_mk (x y : ℝ) : toC ⟨x, y⟩ = (x : ℂ) + (y : ℂ) * Complex.I := by
  apply Complex.ext <;> simp [toC]
@[to_complex] theorem toC_zero : toC (cxZero : Cx ℝ) = 0 := by apply Complex.ext <;> simp [toC, cxZero]
@[to_complex] theorem toC_one : toC (cxOne : Cx ℝ) = 1 := by apply Complex.ext <;> simp [toC, cxOne]
@[to_complex] theorem toC_ofReal (x : ℝ) : toC (cxOfReal x) = (x : ℂ) := by
  apply Complex.ext <;> simp [toC, cxOfReal]

-- real coefficients are pushed through the cast, so that `ring` sees their factors
attribute [to_complex] Complex.ofReal_add Complex.ofReal_sub Complex.ofReal_neg Complex.ofReal_mul Complex.ofReal_div
  Complex.ofReal_one Complex.ofReal_zero Complex.ofReal_natCast Complex.ofReal_ofNat

theorem cx_scale_neg (k : ℝ) (z : Cx ℝ) : Cx.scale k (-z) = -Cx.scale k z := by
  apply toC_inj; simp only [to_complex]; ring

theorem cx_scale_add (k : ℝ) (a b : Cx ℝ) : Cx.scale k (a + b) = Cx.scale k a + Cx.scale k b := by
  apply toC_inj; simp only [to_complex]; ring

theorem cx_neg_add (a b : Cx ℝ) : -(a + b) = -a + -b := by
  apply toC_inj; simp only [to_complex]; ring

theorem cv3_ext {a b : CV3 ℝ} (hx : a.x = b.x) (hy : a.y = b.y) (hz : a.z = b.z) : a = b := by
  cases a; cases b; simp_all

theorem cv3_toC_ext {a b : CV3 ℝ} (hx : toC a.x = toC b.x) (hy : toC a.y = toC b.y) (hz : toC a.z = toC b.z) :
    a = b :=
  cv3_ext (toC_inj hx) (toC_inj hy) (toC_inj hz)

-- components of the `CV3` operations: in `to_complex` so that the goals of `cv3_toC_ext` become `Cx ℝ` identities
@[to_complex] theorem add_x (a b : CV3 ℝ) : (CV3.add a b).x = a.x + b.x := rfl
@[to_complex] theorem add_y (a b : CV3 ℝ) : (CV3.add a b).y = a.y + b.y := rfl
@[to_complex] theorem add_z (a b : CV3 ℝ) : (CV3.add a b).z = a.z + b.z := rfl
@[to_complex] theorem smul_x (c : Cx ℝ) (a : CV3 ℝ) : (CV3.smul c a).x = c * a.x := rfl
@[to_complex] theorem smul_y (c : Cx ℝ) (a : CV3 ℝ) : (CV3.smul c a).y = c * a.y := rfl
@[to_complex] theorem smul_z (c : Cx ℝ) (a : CV3 ℝ) : (CV3.smul c a).z = c * a.z := rfl
@[to_complex] theorem zero_x : (CV3.zero : CV3 ℝ).x = cxZero := rfl
@[to_complex] theorem zero_y : (CV3.zero : CV3 ℝ).y = cxZero := rfl
@[to_complex] theorem zero_z : (CV3.zero : CV3 ℝ).z = cxZero := rfl
@[to_complex] theorem ofMasked_x (m d : V3 ℝ) (b : Cx ℝ) : (CV3.ofMasked m d b).x = Cx.scale (m.x * d.x) b := rfl
@[to_complex] theorem ofMasked_y (m d : V3 ℝ) (b : Cx ℝ) : (CV3.ofMasked m d b).y = Cx.scale (m.y * d.y) b := rfl
@[to_complex] theorem ofMasked_z (m d : V3 ℝ) (b : Cx ℝ) : (CV3.ofMasked m d b).z = Cx.scale (m.z * d.z) b := rfl
@[to_complex] theorem dotR_def (a : CV3 ℝ) (u : V3 ℝ) :
    CV3.dotR a u = Cx.scale u.x a.x + Cx.scale u.y a.y + Cx.scale u.z a.z := rfl

theorem cv3_smul_zero (c : Cx ℝ) : CV3.smul c CV3.zero = CV3.zero := by
  apply cv3_toC_ext <;> simp only [to_complex] <;> ring

theorem cv3_comb_zero (a b : Cx ℝ) : CV3.zero = CV3.add (CV3.smul a CV3.zero) (CV3.smul b CV3.zero) := by
  apply cv3_toC_ext <;> simp only [to_complex] <;> ring

theorem cv3_smul_add (c : Cx ℝ) (a b : CV3 ℝ) :
    CV3.add (CV3.smul c a) (CV3.smul c b) = CV3.smul c (CV3.add a b) := by
  apply cv3_toC_ext <;> simp only [to_complex] <;> ring

theorem ofMasked_mul (m d : V3 ℝ) (c b : Cx ℝ) : CV3.ofMasked m d (c * b) = CV3.smul c (CV3.ofMasked m d b) := by
  apply cv3_toC_ext <;> simp only [to_complex] <;> ring

theorem normSq_toC (a : Cx ℝ) : Complex.normSq (toC a) = Cx.normSq a := rfl

theorem normSq_mul (a b : Cx ℝ) : Cx.normSq (a * b) = Cx.normSq a * Cx.normSq b := by
  rw [← normSq_toC, toC_mul, map_mul, normSq_toC, normSq_toC]

theorem normSq_one_div (q : Cx ℝ) : Cx.normSq (cxOne / q) = 1 / Cx.normSq q := by
  rw [← normSq_toC, toC_div, toC_one, map_div₀, map_one, normSq_toC]

end Pmn.CxC

/- `Cx ℝ` arithmetic written out in real and imaginary parts, for the few identities that are not polynomial over ℂ (moduli). -/
namespace Pmn.FarLemmas
open Pmn.Far

theorem cx_mul_def (a b : Cx ℝ) : a * b = ⟨a.re * b.re - a.im * b.im, a.re * b.im + a.im * b.re⟩ := rfl
theorem cx_add_def (a b : Cx ℝ) : a + b = ⟨a.re + b.re, a.im + b.im⟩ := rfl
theorem cx_sub_def (a b : Cx ℝ) : a - b = ⟨a.re - b.re, a.im - b.im⟩ := rfl
theorem cx_div_def (a b : Cx ℝ) : a / b =
    ⟨(a.re * b.re + a.im * b.im) / (b.re * b.re + b.im * b.im),
     (a.im * b.re - a.re * b.im) / (b.re * b.re + b.im * b.im)⟩ := rfl

end Pmn.FarLemmas
