/- Induction over accepted structures (`build_induction`) and the inversion lemmas of `step`, `hitOk`, `isRegistrant`. -/
import Pmn.Model.Topo
namespace Pmn.TopoLemmas
open Pmn.Topo

-- `((a : Int) + 1) * sgnOf n2 e`: the value of `idxAt` at an end attaching to end `n2` of object `a` (`idxAt_hit`)
theorem natAbs_mul_sgn (a n2 e : Nat) : (((a : Int) + 1) * sgnOf n2 e).natAbs = a + 1 := by
  unfold sgnOf; split <;> simp <;> omega
theorem mul_sgn_ne (a n2 e : Nat) : ((a : Int) + 1) * sgnOf n2 e ≠ 0 :=
  Int.natAbs_ne_zero.mp (natAbs_mul_sgn a n2 e ▸ Nat.succ_ne_zero a)
theorem isign_mul_sgn (a n2 e : Nat) : isign (((a : Int) + 1) * sgnOf n2 e) = sgnOf n2 e := by
  unfold isign sgnOf; split <;> simp <;> omega

theorem idxAt_ground (n : Nat) (o : ObjIn) (e : Nat) (h : o.ground e = true) :
    idxAt n o e = -((n : Int) + 1) := by
  unfold idxAt; rw [if_pos h]

theorem idxAt_hit (n : Nat) (o : ObjIn) (e n2 other : Nat) (hg : o.ground e = false)
    (hh : o.hit e = some (n2, other)) : idxAt n o e = ((other : Int) + 1) * sgnOf n2 e := by
  unfold idxAt; rw [if_neg (by simp [hg]), hh]

theorem idxAt_none (n : Nat) (o : ObjIn) (e : Nat) (hg : o.ground e = false) (hh : o.hit e = none) :
    idxAt n o e = if e = 0 ∧ selfLoop n o then (n : Int) + 1 else 0 := by
  unfold idxAt; rw [if_neg (by simp [hg]), hh]

theorem isRegistrant_iff (objs : List Obj) (k e : Nat) :
    isRegistrant objs k e = true ↔
      ∃ ob, objs[k]? = some ob ∧ e < 2 ∧ ob.inp.ground e = false ∧ ob.inp.hit e = none := by
  unfold isRegistrant
  cases objs[k]? <;> simp [and_assoc]

theorem isRegistrant_lt (objs : List Obj) (k e : Nat) (h : isRegistrant objs k e = true) :
    k < objs.length := by
  obtain ⟨ob, hk, _⟩ := (isRegistrant_iff objs k e).mp h
  exact (List.getElem?_eq_some_iff.mp hk).1

/-- what a valid hit says: the end is not grounded and points at a registered end of an earlier object, or it is the
second end of an object closing on its own registering first end -/
theorem hitOk_some (objs : List Obj) (n : Nat) (o : ObjIn) (e n2 other : Nat) (h : hitOk objs n o e = true)
    (hh : o.hit e = some (n2, other)) :
    o.ground e = false ∧ (isRegistrant objs other n2 = true ∨
      (e = 1 ∧ other = n ∧ n2 = 0 ∧ o.g0 = false ∧ o.h0 = none)) := by
  unfold hitOk at h
  rw [hh] at h
  simpa [and_assoc] using h

/-- at end 0 only: end 1 may attach to the object's own first end (`other = n`) -/
theorem hitOk0_lt (objs : List Obj) (o : ObjIn) (n2 other : Nat)
    (h : hitOk objs objs.length o 0 = true) (hh : o.hit 0 = some (n2, other)) : other < objs.length := by
  obtain ⟨_, h | h⟩ := hitOk_some _ _ _ _ _ _ h hh
  · exact isRegistrant_lt _ _ _ h
  · exact absurd h.1 (by decide)

theorem hitOk_ground (objs : List Obj) (n : Nat) (o : ObjIn) (e : Nat)
    (h : hitOk objs n o e = true) (hg : o.ground e = true) : o.hit e = none := by
  cases hh : o.hit e with
  | none => rfl
  | some v => exact absurd ((hitOk_some _ _ _ _ v.1 v.2 h hh).1 ▸ hg) (by decide)

/-- what an accepted `step` has checked, and what it appended -/
theorem step_ok (st st' : State) (o : ObjIn) (h : step st o = .ok st') :
    hitOk st.objs st.objs.length o 0 = true ∧ hitOk st.objs st.objs.length o 1 = true ∧
    o.nseg ≠ 0 ∧ ¬ (o.h0.isSome = true ∧ o.h0 = o.h1) ∧
    st'.pulses = st.pulses ++ mkPulses st.objs.length o ∧
    st'.objs = st.objs ++ [⟨o, st.pulses.length, (mkPulses st.objs.length o).length,
      endSeg0 st.objs.length o st.pulses.length, endSeg1 st.objs.length o st.pulses.length⟩] := by
  unfold step at h
  simp only at h
  split at h
  · cases h
  split at h
  · cases h
  split at h
  · cases h
  rename_i hn hok hdup
  cases h
  simp at hok
  exact ⟨hok.1, hok.2, hn, by simpa using hdup, rfl, rfl⟩

/-- induction over `build`; the invariant may speak of the objects processed so far -/
theorem build_induction {P : List ObjIn → State → Prop} (h0 : P [] {})
    (hstep : ∀ os st o st', P os st → step st o = .ok st' → P (os ++ [o]) st')
    {os : List ObjIn} {st : State} (h : build os = .ok st) : P os st := by
  suffices H : ∀ (os pre : List ObjIn) (s : State), P pre s → os.foldlM step s = .ok st → P (pre ++ os) st from
    H os [] {} h0 h
  intro os
  induction os with
  | nil =>
    intro pre s hp h
    cases h
    simpa using hp
  | cons o os ih =>
    intro pre s hp h
    rw [List.foldlM_cons] at h
    cases hs : step s o with
    | error e => rw [hs] at h; cases h
    | ok s1 => rw [hs] at h; simpa using ih (pre ++ [o]) s1 (hstep pre s o s1 hp hs) h

end Pmn.TopoLemmas
