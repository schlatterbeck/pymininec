/-
What an entry of the fill takes from the two pulses (proof side only): one pass, direct or image, is `k · assemble …` (`entryK8_eq`),
so every invariance of the fill is a statement about the few arguments of `assemble`; `both_passes` carries one that holds
for each pass over to `entry` and `entryAlgo`.
-/
import Pmn.Model.Fill
import Pmn.Proofs.Inst
import Pmn.Proofs.CxC
import Mathlib.Tactic.Ring
import Mathlib.Tactic.FieldSimp

namespace Pmn.Fill
open Pmn.CxC

def obsVec (p : PulseD ℝ) : V3 ℝ :=
  vadd (vsmul (p.s0.dsgn * p.s0.len) p.s0.dir) (vsmul (p.s1.dsgn * p.s1.len) p.s1.dir)

def srcProj (k : ℝ) (s : Side ℝ) (z : V3 ℝ) : ℝ :=
  s.sign * V3.dot ⟨s.dir.x, s.dir.y, k * (s.gsgn * s.dir.z)⟩ z

theorem srcProj_eq (k : ℝ) (s : Side ℝ) (z : V3 ℝ) :
    srcProj k s z = V3.dot (kmul (k * s.gsgn) (vsmul s.sign s.dir)) z := by
  simp only [srcProj, kmul, vsmul, V3.dot]; ring

/-- the three evaluations of `entryK8` (every integral on its own; scalar potential of a segment from the two
half-segment integrals `A`; diagonal), up to the image factor.  `p pos`: projection `srcProj` of the (mirrored) current
direction `sign·dir` of source half `pos` on the observer's `obsVec = Σ dir_sgn·len·dir`; `l pos`: its length; `q = sign₁²` -/
noncomputable def assemble (w2 : ℝ) (A : Bool → Cx ℝ) (Φ : Bool → Bool → Cx ℝ) (p l : Bool → ℝ) (q : ℝ) : Nat → Cx ℝ
  | 0 => Cx.scale w2 (Cx.scale (p true) (A true) + Cx.scale (p false) (A false))
      + (Cx.scale (1 / l true) (Φ false true - Φ true true) + Cx.scale (1 / l false) (Φ true false - Φ false false))
  | 1 => Cx.scale w2 (Cx.scale (p true) (A true) + Cx.scale (p false) (A false))
      + (Cx.scale (1 / l true) (Φ false true - (Cx.scale q (A true) + A false))
        + Cx.scale (1 / l false) (Φ true false - (Cx.scale q (A true) + A false)))
  | _ + 2 => Cx.scale w2 (Cx.scale (p true + p false) (A true))
      + Cx.scale (1 / l true) (Cx.scale 2 (Φ false true) - Cx.scale (4 * q) (A true))

/-- `A pos`: vector potential of the source's half `pos` at the observer's point; `Φ p1 p2`: scalar potential of the source's
segment `p2` at the middle of the observer's segment `p1` -/
theorem entryK8_eq (Ψ : PsiFn ℝ) (c : Ctx ℝ) (k : ℝ) (kneg : Bool) (pi pj : PulseD ℝ) (xct : Bool) (f8 : Nat) :
    entryK8 Ψ c k kneg pi pj xct f8 = Cx.scale k (assemble c.w2 (fun pos => vecpot Ψ c k kneg pi pj pos xct)
      (fun p1 p2 => scapot Ψ c k kneg pi pj p1 p2 (sameMid pi.idx pj.idx p1 p2) xct)
      (fun pos => srcProj k (side pj pos) (obsVec pi)) (fun pos => (side pj pos).len) (pj.s1.sign * pj.s1.sign) f8) := by
  have h2 (n : Nat) : ¬ n + 2 < 2 := by omega
  rcases f8 with _ | _ | n <;>
  · simp only [entryK8, assemble, obsVec, srcProj, side, if_true, if_false, Bool.false_eq_true, Nat.zero_add,
      Nat.reduceLT, Nat.reduceEqDiff, h2]
    apply toC_inj
    simp only [to_complex]
    ring

/-- all lengths times `s` at `w2 / s²`: an entry is a reciprocal length -/
theorem assemble_scale (s : ℝ) (hs : s ≠ 0) (w2 : ℝ) (A : Bool → Cx ℝ) (Φ : Bool → Bool → Cx ℝ) (p l : Bool → ℝ) (q : ℝ)
    (k : ℝ) (f8 : Nat) :
    Cx.scale k (assemble (w2 / (s * s)) A Φ (fun pos => s * p pos) (fun pos => s * l pos) q f8)
      = Cx.scale (1 / s) (Cx.scale k (assemble w2 A Φ p l q f8)) := by
  have hc : (s : ℂ) ≠ 0 := Complex.ofReal_ne_zero.mpr hs
  rcases f8 with _ | _ | n <;>
  · simp only [assemble]
    apply toC_inj
    simp only [to_complex]
    field_simp

/-- the observer described from the other side: `obsVec` negated, its two ends exchanged.  Like `assemble_flip_source`, at `f8 = 0` only:
in branches 1, 2 `A` stands in for some `Φ`, and the identity fails for free `A`, `Φ` -/
theorem assemble_flip_observer (w2 : ℝ) (A : Bool → Cx ℝ) (Φ : Bool → Bool → Cx ℝ) (p l : Bool → ℝ) (q : ℝ) :
    assemble w2 A (fun p1 p2 => Φ (!p1) p2) (fun pos => -p pos) l q 0 = -assemble w2 A Φ p l q 0 := by
  simp only [assemble]
  apply toC_inj
  simp only [to_complex, Bool.not_true, Bool.not_false]
  ring

/-- the source with its halves exchanged and their current directions reversed; branch 0 does not read `q`, hence `q'` -/
theorem assemble_flip_source (w2 : ℝ) (A : Bool → Cx ℝ) (Φ : Bool → Bool → Cx ℝ) (p l : Bool → ℝ) (q q' : ℝ) :
    assemble w2 (fun pos => A (!pos)) (fun p1 p2 => Φ p1 (!p2)) (fun pos => -p (!pos)) (fun pos => l (!pos)) q' 0
      = -assemble w2 A Φ p l q 0 := by
  simp only [assemble]
  apply toC_inj
  simp only [to_complex, Bool.not_true, Bool.not_false]
  ring

/-- `entry` and `entryAlgo` are the direct pass `d`, plus the image pass `i` if `b`: a relation `· = F ·` that holds
for each pass that is taken, `F` additive, holds for the sum -/
theorem both_passes (F : Cx ℝ → Cx ℝ) (hF : ∀ x y, F (x + y) = F x + F y) {b b' : Bool} {d d' i i' : Cx ℝ}
    (hb : b' = b) (hd : d' = F d) (hi : b = true → i' = F i) :
    (if b' = true then d' + i' else d') = F (if b = true then d + i else d) := by
  subst hb hd
  cases b'
  · rfl
  · simp only [if_true, hi rfl, hF]

end Pmn.Fill
