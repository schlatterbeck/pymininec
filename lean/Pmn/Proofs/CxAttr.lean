import Mathlib.Tactic.Attr.Register

/-- Rewrite rules that carry an equation between `Cx ℝ` / `CV3 ℝ` expressions over to `ℂ` (see `Pmn.CxC`). -/
register_simp_attr to_complex
