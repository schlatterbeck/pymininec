/- `V3 ℝ` as a Euclidean space: components, extensionality, and the norm (proof side only). -/
import Pmn.Model.Geom
import Pmn.Proofs.Inst
import Mathlib.Analysis.SpecialFunctions.Sqrt
import Mathlib.Tactic.Ring
import Mathlib.Tactic.Linarith

namespace Pmn.Vec
open Pmn.Geom

theorem ext {a b : V3 ℝ} (hx : a.x = b.x) (hy : a.y = b.y) (hz : a.z = b.z) : a = b := by
  cases a; cases b; simp_all

@[simp] theorem add_x (a b : V3 ℝ) : (a + b).x = a.x + b.x := rfl
@[simp] theorem add_y (a b : V3 ℝ) : (a + b).y = a.y + b.y := rfl
@[simp] theorem add_z (a b : V3 ℝ) : (a + b).z = a.z + b.z := rfl
@[simp] theorem sub_x (a b : V3 ℝ) : (a - b).x = a.x - b.x := rfl
@[simp] theorem sub_y (a b : V3 ℝ) : (a - b).y = a.y - b.y := rfl
@[simp] theorem sub_z (a b : V3 ℝ) : (a - b).z = a.z - b.z := rfl
@[simp] theorem smulV_x (c : ℝ) (a : V3 ℝ) : (smulV c a).x = c * a.x := rfl
@[simp] theorem smulV_y (c : ℝ) (a : V3 ℝ) : (smulV c a).y = c * a.y := rfl
@[simp] theorem smulV_z (c : ℝ) (a : V3 ℝ) : (smulV c a).z = c * a.z := rfl
@[simp] theorem divV_x (a : V3 ℝ) (c : ℝ) : (divV a c).x = a.x / c := rfl
@[simp] theorem divV_y (a : V3 ℝ) (c : ℝ) : (divV a c).y = a.y / c := rfl
@[simp] theorem divV_z (a : V3 ℝ) (c : ℝ) : (divV a c).z = a.z / c := rfl

theorem normSq_def (v : V3 ℝ) : V3.normSq v = v.x * v.x + v.y * v.y + v.z * v.z := rfl

theorem norm_def (v : V3 ℝ) : V3.norm v = Real.sqrt (v.x * v.x + v.y * v.y + v.z * v.z) := rfl

theorem normSq_nonneg (v : V3 ℝ) : 0 ≤ V3.normSq v :=
  add_nonneg (add_nonneg (mul_self_nonneg v.x) (mul_self_nonneg v.y)) (mul_self_nonneg v.z)

theorem norm_nonneg (v : V3 ℝ) : 0 ≤ V3.norm v := Real.sqrt_nonneg _

theorem norm_mul_self (v : V3 ℝ) : V3.norm v * V3.norm v = V3.normSq v :=
  Real.mul_self_sqrt (normSq_nonneg v)

theorem norm_smulV (a : ℝ) (v : V3 ℝ) : V3.norm (smulV a v) = |a| * V3.norm v := by
  have h : V3.normSq (smulV a v) = a ^ 2 * V3.normSq v := by
    simp only [normSq_def, smulV_x, smulV_y, smulV_z]; ring
  show Real.sqrt (V3.normSq (smulV a v)) = |a| * Real.sqrt (V3.normSq v)
  rw [h, Real.sqrt_mul (sq_nonneg a), Real.sqrt_sq_eq_abs]

theorem norm_sub_comm (a b : V3 ℝ) : V3.norm (a - b) = V3.norm (b - a) := by
  simp only [norm_def, sub_x, sub_y, sub_z]
  congr 1; ring

theorem norm_sub_self (a : V3 ℝ) : V3.norm (a - a) = 0 := by
  simp [norm_def]

/-- Cauchy–Schwarz through Lagrange's identity, then the triangle inequality. -/
theorem norm_add_le (u v : V3 ℝ) : V3.norm (u + v) ≤ V3.norm u + V3.norm v := by
  have hcs : V3.dot u v ≤ V3.norm u * V3.norm v := by
    show _ ≤ Real.sqrt (V3.normSq u) * Real.sqrt (V3.normSq v)
    rw [← Real.sqrt_mul (normSq_nonneg u)]
    apply Real.le_sqrt_of_sq_le
    have : V3.normSq u * V3.normSq v - V3.dot u v ^ 2
        = (u.x * v.y - u.y * v.x) ^ 2 + (u.x * v.z - u.z * v.x) ^ 2 + (u.y * v.z - u.z * v.y) ^ 2 := by
      simp only [normSq_def, V3.dot]; ring
    linarith [sq_nonneg (u.x * v.y - u.y * v.x), sq_nonneg (u.x * v.z - u.z * v.x),
      sq_nonneg (u.y * v.z - u.z * v.y)]
  have : V3.normSq (u + v) = V3.normSq u + V3.normSq v + 2 * V3.dot u v := by
    simp only [normSq_def, V3.dot, add_x, add_y, add_z]; ring
  show Real.sqrt (V3.normSq (u + v)) ≤ _
  rw [Real.sqrt_le_iff, this, add_sq, sq, sq, norm_mul_self, norm_mul_self]
  exact ⟨add_nonneg (norm_nonneg u) (norm_nonneg v), by linarith⟩

theorem norm_sub_le (a b c : V3 ℝ) : V3.norm (a - c) ≤ V3.norm (a - b) + V3.norm (b - c) := by
  have : a - c = (a - b) + (b - c) := by apply ext <;> simp
  rw [this]; exact norm_add_le _ _

end Pmn.Vec
