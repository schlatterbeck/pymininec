namespace Pmn.ListLemmas

theorem length_flatMap_const {α β : Type} (l : List α) (f : α → List β) (m : Nat)
    (h : ∀ a ∈ l, (f a).length = m) : (l.flatMap f).length = l.length * m := by
  rw [List.length_flatMap, List.map_congr_left h, List.map_const', List.sum_replicate_nat]

/-- blocks of equal length `m`: position `j * m + i` is offset `i` in block `j` -/
theorem getElem?_flatMap_const {α β : Type} (l : List α) (f : α → List β) (m : Nat)
    (h : ∀ a ∈ l, (f a).length = m) (j i : Nat) (hi : i < m) :
    (l.flatMap f)[j * m + i]? = (l[j]?).bind fun a => (f a)[i]? := by
  induction l generalizing j with
  | nil => simp
  | cons a t ih =>
    have ha : (f a).length = m := h a (List.mem_cons_self ..)
    rw [List.flatMap_cons]
    cases j with
    | zero => rw [Nat.zero_mul, Nat.zero_add, List.getElem?_append_left (ha ▸ hi)]; rfl
    | succ j =>
      -- `(j + 1) * m + i = (j * m + i) + (f a).length`: past the block of `a`
      rw [Nat.succ_mul, Nat.add_right_comm, ← ha, List.getElem?_append_right (Nat.le_add_left ..), Nat.add_sub_cancel, ha]
      exact ih (fun b hb => h b (List.mem_cons_of_mem _ hb)) j

/-- only `b` contributes -/
theorem flatMap_eq_of_unique {α β : Type} {l : List α} {g : α → List β} {b : α} (hnd : l.Nodup) (hb : b ∈ l)
    (h : ∀ b' ∈ l, b' ≠ b → g b' = []) : l.flatMap g = g b := by
  obtain ⟨s, t, rfl⟩ := List.append_of_mem hb
  obtain ⟨_, ht, hst⟩ := List.nodup_append.mp hnd
  have hs : s.flatMap g = [] := List.flatMap_eq_nil_iff.mpr fun b' hb' =>
    h b' (List.mem_append_left _ hb') (hst b' hb' b (List.mem_cons_self ..))
  have ht : t.flatMap g = [] := List.flatMap_eq_nil_iff.mpr fun b' hb' =>
    h b' (List.mem_append_right _ (List.mem_cons_of_mem _ hb')) fun e => (List.nodup_cons.mp ht).1 (e ▸ hb')
  rw [List.flatMap_append, List.flatMap_cons, hs, ht, List.nil_append, List.append_nil]

/-- running through a list by index is running through the list -/
theorem flatMap_range_getElem? {α β : Type} (l : List α) (f : α → List β) :
    (List.range l.length).flatMap (fun k => match l[k]? with | some a => f a | none => []) = l.flatMap f := by
  induction l with
  | nil => simp
  | cons a r ih =>
    rw [List.length_cons, List.range_succ_eq_map, List.flatMap_cons, List.flatMap_map, List.flatMap_cons]
    simp only [List.getElem?_cons_zero, List.getElem?_cons_succ]
    rw [ih]

end Pmn.ListLemmas
