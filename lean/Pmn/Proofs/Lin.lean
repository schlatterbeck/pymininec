/- Square linear systems: an invertible matrix has at most one solution (the specification of `np.linalg.solve`). -/
import Mathlib.LinearAlgebra.Matrix.NonsingularInverse
import Mathlib.LinearAlgebra.Matrix.ToLin

namespace Pmn.Lin

theorem mulVec_injective {n K : Type} [Fintype n] [DecidableEq n] [Field K] {Z : Matrix n n K}
    (hZ : IsUnit Z.det) : Function.Injective Z.mulVec :=
  Matrix.mulVec_injective_iff_isUnit.mpr ((Matrix.isUnit_iff_isUnit_det Z).mpr hZ)

end Pmn.Lin
